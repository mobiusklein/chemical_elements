import ChemProofs.Lemmas.BrainDefs
import ChemProofs.Gen.Table
/-
C03 — which elements of the regenerated table lie in the domain `Dom` of the exactness theorems
(`probabilityVector_spec`, `centerMassVector_spec`, `rawVariants_spec`): a gap-free isotope ladder
whose lightest isotope is the most abundant one.  Evaluated by the kernel over the whole table.
-/
namespace Chem.Inst
open Chem Chem.Gen

/-- Boolean form of `Dom` plus the numeric side conditions of `rawVariants_spec` -/
def domB (e : Elem) : Bool :=
  !e.isos.isEmpty &&
  (e.isos.zipIdx.all fun (i, j) => i.key == e.elemNum + j && i.shift == (j : Int)) &&
  e.minShift == 0 && e.maxShift == (e.isos.length : Int) - 1 &&
  (e.isos.all fun i => decide (0 < i.abund) && decide (0 < i.mass)) &&
  (e.isos.head?.map (·.mass)) == some e.mostMass

theorem domB_sound (e : Elem) (h : domB e = true) : Dom e := by
  simp only [domB, Bool.and_eq_true, Bool.not_eq_true', beq_iff_eq, List.all_eq_true] at h
  obtain ⟨⟨⟨⟨⟨hne, hz⟩, hmin⟩, hmax⟩, _⟩, _⟩ := h
  have hkey : ∀ j (hj : j < e.isos.length),
      (e.isos[j]).key = e.elemNum + j ∧ (e.isos[j]).shift = (j : Int) := by
    intro j hj
    have hm : (e.isos[j], j) ∈ e.isos.zipIdx := by
      rw [List.mem_zipIdx_iff_getElem?]
      simp [hj]
    have := hz _ hm
    simpa using this
  exact { ne := fun hnil => by simp [hnil] at hne
          key := fun j hj => (hkey j hj).1
          shift := fun j hj => (hkey j hj).2
          minShift := hmin
          maxShift := hmax }

theorem domB_facts (e : Elem) (h : domB e = true) :
    (∀ i ∈ e.isos, 0 < i.abund) ∧ e.isos.head?.map (·.mass) = some e.mostMass ∧ e.mostMass ≠ 0 := by
  simp only [domB, Bool.and_eq_true, Bool.not_eq_true', beq_iff_eq, List.all_eq_true,
    decide_eq_true_eq] at h
  obtain ⟨⟨_, hpos⟩, hmm⟩ := h
  refine ⟨fun i hi => (hpos i hi).1, hmm, ?_⟩
  cases hl : e.isos with
  | nil => rw [hl] at hmm; simp at hmm
  | cons a t =>
    rw [hl] at hmm
    simp only [List.head?_cons, Option.map_some, Option.some.injEq] at hmm
    exact hmm ▸ Int.ne_of_gt (hpos a (hl ▸ List.mem_cons_self)).2

/-- the elements of the table the exactness theorems apply to (symbols as code points) -/
def domSymbols : List Sym := (table.filter domB).map (·.sym)

theorem dom_count : domSymbols.length = 67 ∧ table.length = 120 := by decide +kernel

/-- carbon, hydrogen, nitrogen, oxygen, silicon, magnesium, potassium and neon are in the domain
    (sulfur is not: a D5 element) -/
theorem dom_chnosi : [[67], [72], [78], [79], [83, 105], [77, 103], [75], [78, 101]].all (fun s => domSymbols.contains s) = true := by
  decide +kernel

theorem dom_table : ∀ e ∈ table, domB e = true → Dom e := fun e _ h => domB_sound e h

end Chem.Inst
