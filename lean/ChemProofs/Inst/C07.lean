import ChemProofs.Props.C07
import ChemProofs.Inst.C01
import ChemProofs.Lemmas.Sorted
/-
C07 — the display / parse round trip at the table regenerated from /repo: every non-empty composition whose keys are table
keys (`tableKeyB`: symbol stored in the table and beginning with an upper-case letter — the table also holds the electron
`e*`, which the parser cannot read, see the counterexample at the end —, isotope 0 or an isotope the element has), with pairwise distinct keys and
positive (i32) counts is `Displayable`, so `display_roundtrip` applies to it, for every character class right on ASCII.
-/
namespace Chem.Inst
open Chem Chem.Gen

/-- a key of the table: the symbol is stored and begins with an upper-case letter (i.e. is not the electron `e*`), and the
    isotope is 0 ("natural") or one the element has -/
def tableKeyB (k : Key) : Bool :=
  match table.find? k.1 with
  | some el => isUpperHead k.1 && (k.2 == 0 || (el.iso? k.2).isSome)
  | none => false

theorem tableKeyB_iff (k : Key) : tableKeyB k = true ↔
    ∃ el, table.find? k.1 = some el ∧ isUpperHead k.1 = true ∧ (k.2 = 0 ∨ (el.iso? k.2).isSome = true) := by
  unfold tableKeyB
  cases table.find? k.1 <;> simp

theorem tableKeyB_sound (k : Key) (h : tableKeyB k = true) : KeyOK table k := by
  obtain ⟨el, hf, hup, h⟩ := (tableKeyB_iff k).1 h
  obtain ⟨hkey, hmem⟩ := Table.find?_tkey table k.1 el hf
  rw [KeyOK, hf]
  refine ⟨by rw [← table_tkey hmem, hkey], hup, h.imp_right fun h => ?_⟩
  obtain ⟨i, hi⟩ := Option.isSome_iff_exists.1 h
  exact ⟨(Elem.iso?_some hi).2 ▸ table_iso_u16 hmem (Elem.iso?_some hi).1, h⟩

/-- all the keys of the table: every symbol with isotope 0 and with each of its isotopes -/
def allKeys : List Key := table.flatMap fun e => (e.tkey, 0) :: e.isos.map fun i => (e.tkey, i.key)

/-- the keys the round trip covers: all but the electron's -/
def goodKeys : List Key := allKeys.filter fun k => isUpperHead k.1

theorem tableKeyB_of_mem_goodKeys (k : Key) (hk : k ∈ goodKeys) : tableKeyB k = true := by
  obtain ⟨hk, hup⟩ := List.mem_filter.1 hk
  obtain ⟨e, he, hk⟩ := List.mem_flatMap.1 hk
  rcases List.mem_cons.1 hk with rfl | hk
  · exact (tableKeyB_iff _).2 ⟨e, table_find?_of_mem he, hup, Or.inl rfl⟩
  · obtain ⟨i, hi, rfl⟩ := List.mem_map.1 hk
    exact (tableKeyB_iff _).2 ⟨e, table_find?_of_mem he, hup, Or.inr (Elem.iso?_isSome_of_mem hi)⟩

theorem goodKeys_tableKeyB : goodKeys.all tableKeyB = true := List.all_eq_true.2 tableKeyB_of_mem_goodKeys

/-- One evaluation of the key list.  There are 444 keys (counted as the table lists them: the 35 elements without natural
    isotopes list one isotope numbered 0, so their key `(sym, 0)` is counted twice; 409 are distinct); the electron contributes
    `(e*, 0)` twice; the other 442 stand in the order of `keyLt`, weakly (read from the far end: weakly decreasing), so
    equal keys are neighbours, in 408 runs -/
theorem allKeys_facts : allKeys.length = 444 ∧ goodKeys.length = 442 ∧
    allKeys.filter (fun k => !isUpperHead k.1) = [([101, 42], 0), ([101, 42], 0)] ∧
    chainB (fun a b => a == b || keyLt b a) goodKeys.reverse = true ∧ runs goodKeys.reverse = 408 := by
  decide +kernel

/-- the number of distinct keys among the 442 (positions that are the first occurrence of their key) -/
theorem goodKeys_distinct :
    ((List.range goodKeys.length).filter fun j => decide (goodKeys.idxOf (goodKeys.getD j ([], 0)) = j)).length = 408 := by
  -- in a sorted list the first occurrences are the beginnings of runs, which one pass counts
  have h := length_firsts_reverse keyLt keyLt_irrefl (fun _ _ _ => keyLt_trans) ([], 0) goodKeys.reverse
    allKeys_facts.2.2.2.1
  rw [List.reverse_reverse] at h
  exact h.trans allKeys_facts.2.2.2.2

theorem goodKeys_keyOK : ∀ k ∈ goodKeys, KeyOK table k := fun k hk =>
  tableKeyB_sound k (tableKeyB_of_mem_goodKeys k hk)

theorem tableKeyB_mem_goodKeys (k : Key) (h : tableKeyB k = true) : k ∈ goodKeys := by
  obtain ⟨el, hf, hup, h⟩ := (tableKeyB_iff k).1 h
  obtain ⟨hkey, hmem⟩ := Table.find?_tkey table k.1 el hf
  refine List.mem_filter.2 ⟨List.mem_flatMap.2 ⟨el, hmem, ?_⟩, hup⟩
  rcases h with h | h
  · exact List.mem_cons.2 (Or.inl (Prod.ext hkey.symm h))
  · obtain ⟨i, hi⟩ := Option.isSome_iff_exists.1 h
    exact List.mem_cons_of_mem _ (List.mem_map.2 ⟨i, (Elem.iso?_some hi).1, Prod.ext hkey (Elem.iso?_some hi).2⟩)

/-- the hypotheses on a composition over the table, as a Boolean -/
def tableCompB (c : Comp) : Bool :=
  !c.ents.isEmpty && decide c.ents.keys.Nodup &&
  c.ents.all fun e => decide (0 < e.2) && decide (e.2 ≤ 2147483647) && tableKeyB e.1

theorem tableCompB_iff (c : Comp) : tableCompB c = true ↔
    c.ents ≠ [] ∧ c.ents.keys.Nodup ∧ (∀ e ∈ c.ents, 0 < e.2 ∧ e.2 ≤ 2147483647) ∧
      ∀ e ∈ c.ents, tableKeyB e.1 = true := by
  simp only [tableCompB, Bool.and_eq_true, Bool.not_eq_true', List.isEmpty_eq_false_iff, decide_eq_true_eq,
    List.all_eq_true, and_assoc, forall_and]

theorem displayable_table (c : Comp) (hnd : c.ents.keys.Nodup)
    (hpos : ∀ e ∈ c.ents, 0 < e.2 ∧ e.2 ≤ 2147483647) (hkeys : ∀ e ∈ c.ents, tableKeyB e.1 = true) :
    Displayable table c :=
  ⟨hnd, hpos, fun e he => tableKeyB_sound e.1 (hkeys e he)⟩

/-- **C07 at the compiled table**: a non-empty composition with pairwise distinct table keys and positive (i32) counts
    displays as a text that parses back to a composition with the same count for every key, pairwise distinct keys
    and the same finite map -/
theorem roundtrip_table (cc : CharClass) (hcc : cc.AsciiOK) (c : Comp) (hne : c.ents ≠ [])
    (hnd : c.ents.keys.Nodup) (hpos : ∀ e ∈ c.ents, 0 < e.2 ∧ e.2 ≤ 2147483647)
    (hkeys : ∀ e ∈ c.ents, tableKeyB e.1 = true) :
    ∃ ents', parseFormula cc table (toFormula cc table c) = .ok ents' ∧ (∀ k, ents'.get k = c.ents.get k) ∧
      ents'.NoDupKeys ∧ (∀ k, Ents.abs ents' k = Ents.abs c.ents k) :=
  display_roundtrip cc hcc table (table_symbolsOK cc hcc) c (displayable_table c hnd hpos hkeys) hne

theorem roundtrip_table_of_check (cc : CharClass) (hcc : cc.AsciiOK) (c : Comp) (h : tableCompB c = true) :
    ∃ ents', parseFormula cc table (toFormula cc table c) = .ok ents' ∧ (∀ k, ents'.get k = c.ents.get k) ∧
      ents'.NoDupKeys ∧ (∀ k, Ents.abs ents' k = Ents.abs c.ents k) := by
  obtain ⟨hne, hnd, hpos, hkeys⟩ := (tableCompB_iff c).1 h
  exact roundtrip_table cc hcc c hne hnd hpos hkeys

/-- ... and displaying the parsed composition again gives the same text -/
theorem display_parse_display_table (cc : CharClass) (hcc : cc.AsciiOK) (c : Comp) (h : tableCompB c = true)
    (f : Form) (cache : Option Int) :
    ∃ ents', parseFormula cc table (toFormula cc table c) = .ok ents' ∧
      toFormula cc table ⟨f, ents', cache⟩ = toFormula cc table c := by
  obtain ⟨hne, hnd, hpos, hkeys⟩ := (tableCompB_iff c).1 h
  exact display_parse_display cc hcc table (table_symbolsOK cc hcc) c (displayable_table c hnd hpos hkeys) hne f cache

/-! ### non-vacuity: glucose with one fixed carbon-13 -/

/-- O6 H12 C5 C[13]1, in some insertion order -/
def glucose13 : Comp := ⟨.vec, [(([79], 0), 6), (([72], 0), 12), (([67], 13), 1), (([67], 0), 5)], none⟩

theorem glucose13_ok : tableCompB glucose13 = true := by decide +kernel

example : tableCompB glucose13 = true := glucose13_ok

example (cc : CharClass) (hcc : cc.AsciiOK) :
    ∃ ents', parseFormula cc table (toFormula cc table glucose13) = .ok ents' ∧
      (∀ k, ents'.get k = glucose13.ents.get k) ∧ ents'.NoDupKeys ∧
      (∀ k, Ents.abs ents' k = Ents.abs glucose13.ents k) :=
  roundtrip_table_of_check cc hcc glucose13 glucose13_ok

-- "C5H12C[13]1O6", and what it parses to
example : toFormula asciiCC table glucose13 = [67, 53, 72, 49, 50, 67, 91, 49, 51, 93, 49, 79, 54] := by
  decide +kernel
example : parseFormula asciiCC table (toFormula asciiCC table glucose13)
    = .ok [(([67], 0), 5), (([72], 0), 12), (([67], 13), 1), (([79], 0), 6)] := by decide +kernel

-- the restriction to upper-case symbols matters: one electron displays as "e*1", which does not parse
example : toFormula asciiCC table ⟨.vec, [(([101, 42], 0), 1)], none⟩ = [101, 42, 49] ∧
    parseFormula asciiCC table (toFormula asciiCC table ⟨.vec, [(([101, 42], 0), 1)], none⟩) = .err := by
  decide +kernel

-- keys that are not table keys: an unknown symbol, an isotope carbon does not have
example : tableKeyB ([88, 120], 0) = false ∧ tableKeyB ([67], 99) = false := by decide +kernel

end Chem.Inst
