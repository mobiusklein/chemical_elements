import ChemProofs.Props.C16
import ChemProofs.Inst.Table
/-
C16 — instantiation at the regenerated table.  The round trip and the verdict on "every element of the table and every
isotope it has (or none)" are the parametric theorems `spec_roundtrip` and `specVerdict_displayKey` of Props/C16.lean at
the table; their hypotheses (Inst/Table.lean: keys in order, stored under the symbol, no bracket, isotope numbers within
`u16`) the kernel checks in one pass over the elements.  What the quick pre-check says of a rendered key depends on the
shape of the symbol alone (`quick_displayKey`), which the kernel checks on the 120 symbols (`table_quickSym`).
-/
namespace Chem.Inst
open Chem Chem.Gen

/-- a character class that is right on ASCII and classifies `é`, `中`, `²` beyond it (the driver's `drvCC` of
    `Drv/Comp.lean` classifies more characters; only the ASCII behaviour matters here) -/
def instCC : CharClass where
  alpha c := isAsciiAlpha c || c == 233 || c == 20013
  numeric c := isAsciiDigit c || c == 178
  upper c := isAsciiUpper c

theorem keys_count : (Spec.allKeys table).length = 120 + ((table.map (fun e => (e.isos.filter (fun i => i.key != 0)).length)).foldl (· + ·) 0) := by
  decide +kernel

/-- a listed key names an isotope number that `spec_roundtrip` and `specVerdict_displayKey` admit -/
theorem table_iso_ok {e : Elem} (he : e ∈ table) {n : Nat} (hn : n = 0 ∨ ∃ i ∈ e.isos, i.key = n) :
    n = 0 ∨ (n ≤ 65535 ∧ (e.iso? n).isSome) := by
  rcases hn with h0 | ⟨i, hi, rfl⟩
  · exact Or.inl h0
  · exact Or.inr ⟨table_iso_u16 he hi, Elem.iso?_isSome_of_mem hi⟩

/-- **round trip for every (element, isotope | none) pair of the table** -/
theorem spec_roundtrip_table : (Spec.allKeys table).all (fun k => parseSpec table (displayKey k) == .ok k) = true :=
  List.all_eq_true.2 fun (s, n) hk => by
    obtain ⟨e, he, rfl, hn⟩ := mem_specAllKeys hk
    exact beq_iff_eq.2 (spec_roundtrip table e (table_find?_sym he) (table_no_bracket he) n (table_iso_ok he hn))

/-- the parser and the independent specification agree on every rendered key -/
theorem spec_verdict_table :
    (Spec.allKeys table).all (fun k => Spec.specVerdict table (displayKey k) == .accept k) = true :=
  List.all_eq_true.2 fun (s, n) hk => by
    obtain ⟨e, he, rfl, hn⟩ := mem_specAllKeys hk
    exact beq_iff_eq.2 (specVerdict_displayKey table e (table_find?_sym he)
      (fun e' he' => table_tkey he' ▸ table_no_bracket he') (fun e' he' => table_no_bracket he')
      (fun e' he' => table_sym_inj he' he) n (table_iso_ok he hn))

/-- elements are found under their own symbol: the Boolean form of the hypothesis `hown` of the read theorems, which
    `hown_table` below proves as it stands -/
theorem own_symbol_table : table.all (fun e => match table.find? e.tkey with
    | some e' => e'.sym == e.tkey | none => false) = true :=
  List.all_eq_true.2 fun e he => by
    rw [table_find?_of_mem he]
    exact beq_iff_eq.2 (table_tkey he).symm

/-! The hypothesis `hown` of `str_read_agrees` / `getStr_agrees` speaks of the table only, so the `_table` theorems hold for
every composition; `KeysInTable` (the property's reading: compositions whose keys are table keys) is not needed as a
hypothesis, and `keys_own_symbol` is that reading. -/

theorem hown_table : ∀ x e, table.find? x = some e → e.sym = x := fun x e h =>
  (table_tkey (Table.find?_tkey table x e h).2).symm.trans (Table.find?_tkey table x e h).1

/-- every key of the composition is a key of the table: the symbol is a table symbol and the isotope
    number is 0 or one the element has -/
def KeysInTable (T : Table) (c : Comp) : Prop :=
  c.ents.all (fun p => match T.find? p.1.1 with
    | some e => p.1.2 == 0 || (e.iso? p.1.2).isSome
    | none => false) = true

instance (T : Table) (c : Comp) : Decidable (KeysInTable T c) := by unfold KeysInTable; exact inferInstance

/-- for a composition over the table, every present key's symbol names an element stored under that very
    symbol (the property's reading of `hown`) -/
theorem keys_own_symbol (c : Comp) (hc : KeysInTable table c) :
    ∀ p ∈ c.ents, ∃ e, table.find? p.1.1 = some e ∧ e.sym = p.1.1 := by
  intro p hp
  have := List.all_eq_true.1 hc p hp
  cases he : table.find? p.1.1 with
  | none =>
    rw [he] at this
    cases this
  | some e => exact ⟨e, rfl, hown_table _ e he⟩

theorem str_read_agrees_table (cc : CharClass) (c : Comp) (s : Sym) (k : Key)
    (hk : parseSpec table s = .ok k) (hq : quickCheckStr cc s ≠ .no)
    (hyes : quickCheckStr cc s = .yes → 91 ∉ s) :
    c.strIndex cc table s = c.ents.get k :=
  str_read_agrees cc table c s k hown_table hk hq hyes

theorem getStr_agrees_table (c : Comp) (s : Sym) (k : Key)
    (hnb : 91 ∉ s) (hk : parseSpec table s = .ok k) :
    c.ents.getStr s = c.ents.get k :=
  getStr_agrees table c s k hown_table hnb hk

/-- non-vacuity: the hypotheses of the two `_table` theorems hold for the strings `H` and `H[2]` (the latter
    for the string index only) with `instCC`, and a composition over the table -/
example : KeysInTable table ⟨.vec, [((([72] : Sym), 0), 2), (([72], 2), 5), (([79], 0), 1)], none⟩ := by
  decide +kernel

example :
    let c : Comp := ⟨.vec, [((([72] : Sym), 0), 2), (([72], 2), 5), (([79], 0), 1)], none⟩
    parseSpec table [72] = .ok ([72], 0) ∧ quickCheckStr instCC [72] ≠ .no ∧
    parseSpec table [72, 91, 50, 93] = .ok ([72], 2) ∧ quickCheckStr instCC [72, 91, 50, 93] ≠ .no ∧
    quickCheckStr instCC [72, 91, 50, 93] ≠ .yes ∧
    c.strIndex instCC table [72] = 2 ∧ c.ents.getStr [72] = 2 ∧ c.strIndex instCC table [72, 91, 50, 93] = 5 := by
  decide +kernel

theorem instCC_asciiOK : instCC.AsciiOK := by
  intro c hc
  have ne {n : Nat} (hn : 128 ≤ n) : (c == n) = false := beq_false_of_ne (Nat.ne_of_lt (Nat.lt_of_lt_of_le hc hn))
  refine ⟨?_, ?_, rfl⟩
  · show (isAsciiAlpha c || c == 233 || c == 20013) = _
    rw [ne (by decide), ne (by decide), Bool.or_false, Bool.or_false]
  · show (isAsciiDigit c || c == 178) = _
    rw [ne (by decide), Bool.or_false]

theorem table_quickSym : table.all (fun e => quickSym e.sym) = true := by decide +kernel

/-- the quick pre-check never dismisses a rendered key, and says "yes" only to bracket-free text -/
theorem quick_ok_table_any (cc : CharClass) (hcc : cc.AsciiOK) :
    (Spec.allKeys table).all (fun k => quickCheckStr cc (displayKey k) != .no &&
      (quickCheckStr cc (displayKey k) != .yes || !(displayKey k).contains 91)) = true :=
  List.all_eq_true.2 fun (s, n) hk => by
    obtain ⟨e, he, rfl, -⟩ := mem_specAllKeys hk
    simpa using quick_displayKey hcc n (List.all_eq_true.1 table_quickSym e he)

theorem quick_ok_table :
    (Spec.allKeys table).all (fun k => quickCheckStr instCC (displayKey k) != .no &&
      (quickCheckStr instCC (displayKey k) != .yes || !(displayKey k).contains 91)) = true :=
  quick_ok_table_any instCC instCC_asciiOK

end Chem.Inst
