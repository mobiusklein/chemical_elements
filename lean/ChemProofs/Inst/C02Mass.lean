import ChemProofs.Props.C02
import ChemProofs.Gen.Table
/-
C02 — instantiation of `run_mass` at the real key-mass function of the compiled table:
"the mass of the fixed isotope, or of the most abundant isotope when none is fixed".
-/
namespace Chem.Inst
open Chem Chem.Gen

/-- mass of a key over the compiled table (micro-units): `Elem.mostMass` for isotope 0, the isotope's
    `mass` for a fixed isotope the element has, 0 for a key that is not a table key (the code has no such total answer:
    a key holds a reference to its element, and `calc_mass` indexes `isotopes[&isotope]`, which panics on an isotope
    the element lacks) -/
def tableKeyMass (k : Key) : Int :=
  match table.find? k.1 with
  | none => 0
  | some e =>
    if k.2 == 0 then e.mostMass
    else match e.iso? k.2 with
      | some i => i.mass
      | none => 0

theorem tableKeyMass_plain (s : Sym) (e : Elem) (h : table.find? s = some e) :
    tableKeyMass (s, 0) = e.mostMass := by simp [tableKeyMass, h]

theorem tableKeyMass_iso (s : Sym) (n : Nat) (e : Elem) (i : Iso) (h : table.find? s = some e)
    (hn : n ≠ 0) (hi : e.iso? n = some i) : tableKeyMass (s, n) = i.mass := by
  simp [tableKeyMass, h, hn, hi]

theorem tableKeyMass_unknown (s : Sym) (n : Nat) (h : table.find? s = none) :
    tableKeyMass (s, n) = 0 := by simp [tableKeyMass, h]

/-- **C02 at the compiled table**: after any finite history of public operations, on every register,
    `mass()`, `fmass()` and `calc_mass()` return the real mass of the current contents -/
theorem run_mass_table (cc : CharClass) (n : Nat) (ops : List Op) :
    ∀ c ∈ runM cc table tableKeyMass (List.replicate n (Comp.empty .vec)) ops,
      c.mass tableKeyMass = c.ents.massOf tableKeyMass ∧
      (c.fmass tableKeyMass).2 = c.ents.massOf tableKeyMass ∧
      c.calcMass tableKeyMass = c.ents.massOf tableKeyMass :=
  run_mass cc table tableKeyMass n ops

/-- H2O weighs 18.010565 (2 × 1.007825 + 15.994915), in micro-units -/
example : Ents.massOf tableKeyMass [((([72] : Sym), 0), 2), ((([79] : Sym), 0), 1)] = 18010565 := by
  decide +kernel

/-- the mass function on single keys: H, O, the fixed isotope H[2], an isotope H does not have, a non-symbol -/
example : tableKeyMass ([72], 0) = 1007825 ∧ tableKeyMass ([79], 0) = 15994915 ∧
    tableKeyMass ([72], 2) = 2014102 ∧ tableKeyMass ([72], 99) = 0 ∧ tableKeyMass ([88, 120], 0) = 0 := by
  decide +kernel

/-- end to end: the history `H := 2; O := 1; fmass` on one register leaves the contents H2O and the cache
    holding exactly its mass; `mass()` then reports it -/
example :
    let rs := runM ⟨fun _ => false, fun _ => false, fun _ => false⟩ table tableKeyMass [Comp.empty .vec]
                [.set 0 ([72], 0) 2, .set 0 ([79], 0) 1, .fmass 0]
    rs.map (fun c => (c.ents, c.cache, c.mass tableKeyMass)) =
      [([((([72] : Sym), 0), 2), ((([79] : Sym), 0), 1)], some 18010565, 18010565)] := by
  decide +kernel

end Chem.Inst

