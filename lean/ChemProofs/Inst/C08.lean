import ChemProofs.Props.C08
import ChemProofs.Inst.Table
/- C08 — the table hypothesis (`SymInj`) of the purity theorem (`history_pure`, Props/C08.lean) discharged for the compiled
   table, and the theorem at that table. -/
namespace Chem

theorem table_symInj : SymInj Gen.table := fun _ hx _ hy => Inst.table_sym_inj hx hy

example : SymInj Gen.table := table_symInj

/-! `history_pure` has no hypothesis on the constants `K`, so none appears here: `K` stays arbitrary. -/
open Chem.Gen

/-- **purity over the compiled table**: for any constants `K`, any history of generator calls whose compositions are over
    elements of the compiled table, and any such composition `c`, the call after the history returns exactly what the
    stateless function returns -/
theorem history_pure_table {K : BrainConsts} (hist : List Call)
    (hh : ∀ q ∈ hist, CompOK table q.1) {c : BComp} (hc : CompOK table c) (req : PeakReq) (z : Int) (carrier : Rat) :
    peaksOf (generatorCall K (runHist K hist) c req z carrier) = brainVariants K c req z carrier :=
  history_pure table_symInj hist hh hc req z carrier

theorem runHist_inv_table {K : BrainConsts} (hist : List Call) (hh : ∀ q ∈ hist, CompOK table q.1) :
    CacheInv K table (runHist K hist) :=
  runHist_inv table_symInj hist hh

/-- two histories over the table cannot be told apart by a later call -/
theorem history_irrelevant_table {K : BrainConsts} (hist1 hist2 : List Call)
    (h1 : ∀ q ∈ hist1, CompOK table q.1) (h2 : ∀ q ∈ hist2, CompOK table q.1) {c : BComp} (hc : CompOK table c)
    (req : PeakReq) (z : Int) (carrier : Rat) :
    peaksOf (generatorCall K (runHist K hist1) c req z carrier) =
      peaksOf (generatorCall K (runHist K hist2) c req z carrier) := by
  rw [history_pure_table hist1 h1 hc, history_pure_table hist2 h2 hc]

namespace C08Hist

/-- the table's element stored under a symbol (the default element if there is none) -/
def tel (s : Sym) : Elem := (table.find? s).getD default

def glucose : BComp := [(tel [67], 6), (tel [72], 12), (tel [79], 6)]
def water : BComp := [(tel [72], 2), (tel [79], 1)]

/-- C6H12O6 with 5 peaks, then H2O with 3 (charge 1, carrier mass 0) -/
def hist2 : List Call := [(glucose, .fixed 5, 1, 0), (water, .fixed 3, 1, 0)]

/-- the elements are the table's C, H, O (not the default element) -/
example : (tel [67]).sym = [67] ∧ (tel [72]).sym = [72] ∧ (tel [79]).sym = [79] := by decide +kernel

theorem glucose_ok : CompOK table glucose := by decide +kernel
theorem water_ok : CompOK table water := by decide +kernel

theorem hist2_ok : ∀ q ∈ hist2, CompOK table q.1 := by
  intro q hq
  simp only [hist2, List.mem_cons, List.not_mem_nil, or_false] at hq
  rcases hq with rfl | rfl
  · exact glucose_ok
  · exact water_ok

/-- so `history_pure_table` applies: after those two calls, a request for glucose (any request, charge, carrier) gives
    what the stateless function gives -/
example {K : BrainConsts} (req : PeakReq) (z : Int) (carrier : Rat) :
    peaksOf (generatorCall K (runHist K hist2) glucose req z carrier) = brainVariants K glucose req z carrier :=
  history_pure_table hist2 hist2_ok glucose_ok req z carrier

end C08Hist
end Chem
