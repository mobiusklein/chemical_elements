import ChemProofs.Props.C06Keys
import ChemProofs.Inst.Table
/-
C06 — instantiation at the regenerated table: the table hypothesis `Table.Own` of Props/C06Keys.lean holds (Inst/Table.lean),
so the lock-step theorems hold for every history whose typed keys are table keys, with no `RunOK` hypothesis.
-/
namespace Chem.Inst
open Chem Chem.Gen

theorem table_own : Table.Own table := fun _ he => ⟨table_tkey he, table_no_bracket he⟩

/-- **lock-step at the real table**: list-backed, map-backed and enum-wrapped runs of any history over table keys, started
    from empty registers, give the same observations (values read, panics) step by step -/
theorem lockstep_trace_table (cc : CharClass) (m : Key → Int) (φ : Form → Form)
    (hφ : ∀ f, (φ f).isEnum = f.isEnum) (ops : List Op) (n : Nat) (f f' : Form) (hf : f'.isEnum = f.isEnum)
    (hops : ∀ op ∈ ops, op.KeysIn table) :
    traceM cc table m (List.replicate n (Comp.empty f)) ops =
      traceM cc table m (List.replicate n (Comp.empty f')) (ops.map (Op.mapForm φ)) :=
  lockstep_trace_fresh cc table table_own m φ hφ ops n f f' hf hops

/-- non-vacuity: `C`, `C[13]` are table keys; `C[15]` and `Xx` are not -/
example : Key.InT table ([67], 0) :=
  parseSpec_inT table table_own [67] _ (by decide +kernel : parseSpec table [67] = .ok ([67], 0))
example : Key.InT table ([67], 13) :=
  parseSpec_inT table table_own [67, 91, 49, 51, 93] _ (by decide +kernel : parseSpec table [67, 91, 49, 51, 93] = .ok ([67], 13))
example : ¬ Key.InT table ([88, 120], 0) := by
  rintro ⟨_, e, he, _⟩
  have : table.find? [88, 120] = none := by decide +kernel
  simp only at he
  rw [this] at he
  cases he
example : ¬ Key.InT table ([67], 15) := by
  rintro ⟨_, e, he, _, h | h⟩
  · cases h
  · have hk : ((table.find? [67]).bind (fun e => e.iso? 15)).isSome = false := by decide +kernel
    simp only at he h
    rw [he, Option.bind_some] at hk
    rw [hk] at h
    cases h

end Chem.Inst
