import ChemProofs.Drv.Brain
/-
The hypotheses the parametric theorems put on the *constants* and on the *table*, discharged for what the translator read from
the source on this run (`Gen/Consts.lean`, `Gen/Table.lean`) — the values the driver instantiates the model with (`brainK`) —
and for the literals the properties themselves name (`specK`).
-/
namespace Chem
open Chem.Drv

/-- the constants of the coarse generator as translated from `/repo`: units, Poisson iteration cap, default cap, cut -/
theorem brainK_facts :
    brainK.one ≠ 0 ∧ 1 ≤ brainK.maxIter ∧ brainK.maxIter ≤ 2147483647 ∧ 1 ≤ brainK.guessCap ∧
    0 < brainK.lambdaFactor ∧ 0 < brainK.cut ∧ 0 ≤ brainK.guessFraction ∧ brainK.guessFraction ≤ 1 := by
  decide +kernel

/-- ... and they are the literals the properties name: λ = mass/1800, at most 255 iterations, at most 300 peaks by default,
    99.99 % of the signal, cut at 1e-10 -/
theorem brainK_eq_spec : brainK.one = specK.one ∧ brainK.lambdaFactor = 1800 ∧ brainK.maxIter = 255 ∧ brainK.guessCap = 300 ∧
    brainK.guessFraction = 9999 / 10000 ∧ brainK.cut = 1 / 10000000000 := by
  decide +kernel

/-- the unit of the constants is positive and is the unit of the compiled table (`Gen.one`, 10⁶) -/
theorem brainK_unit : 0 < brainK.one ∧ brainK.one = (Gen.one : Rat) := by decide +kernel

end Chem
