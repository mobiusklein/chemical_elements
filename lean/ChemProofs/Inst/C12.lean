import ChemProofs.Props.C12
import ChemProofs.Lemmas.BuildRs
import ChemProofs.Inst.Table
import ChemProofs.Gen.Nist
/-
C12 — instantiation at the table and NIST data regenerated from /repo on this run.
The quantifier of the property *is* this finite table; every clause below (`Model/Table.lean`; `one` is 1.0 in the unit of
the table's numbers, 10⁻⁶) is kernel evaluation over the whole of it (no sampling), and `table_wf` is their conjunction.
That no key occurs twice follows from the order of the keys (Inst/Table.lean).  The replay of `data/build.rs` is one
evaluation over the whole data file: the table is the list of the generated elements in the order of their symbols
(`table_eq_sorted`), after the isotopes of zero abundance, which do not influence what is generated
(`prepareElement_dropZero`), have been dropped; `table_from_nist` follows because the keys are distinct
(`tableFromNist_of_perm`).
-/
namespace Chem.Inst
open Chem Chem.Gen

/-- the number of entries of `PERIODIC_TABLE.elements` (the electron `e*` among them) -/
theorem table_size : table.length = 120 := by decide +kernel
/-- the quantifier of the property is not empty: at least 100 elements with at least 300 isotopes between them -/
theorem table_nonempty : 100 ≤ table.length ∧ 300 ≤ (table.map (·.isos.length)).foldl (· + ·) 0 := by
  decide +kernel
/-- no key is listed twice: `table_keys_nodup` (Inst/Table.lean) as the Boolean of `Model/Table.lean` -/
theorem table_keys_distinct : nodupSyms (table.map (·.tkey)) = true := (nodupSyms_iff _).2 table_keys_nodup

/-- every element is stored under its own, non-empty `symbol` -/
theorem c_own_symbol   : table.all (·.cOwnSymbol) = true := by decide +kernel
/-- every isotope is stored under its `neutrons`; an element without natural isotopes has the single entry 0, of abundance 1 -/
theorem c_iso_keys     : table.all (·.cIsoKeys one) = true := by decide +kernel
/-- `neutron_shift` is `neutrons` minus `most_abundant_isotope` -/
theorem c_shift        : table.all (·.cShift) = true := by decide +kernel
/-- every `abundance` lies in (0, 1] -/
theorem c_abund_range  : table.all (·.cAbundRange one) = true := by decide +kernel
/-- the abundances of an element sum to 1 within 10⁻³ (to exactly 1 as the table prints them: `table_dists`, Inst/C11.lean) -/
theorem c_abund_sum    : table.all (·.cAbundSum one) = true := by decide +kernel
/-- `most_abundant_isotope` is an isotope of maximal abundance, and `most_abundant_mass` is its mass -/
theorem c_most_abundant: table.all (·.cMostAbundant) = true := by decide +kernel
/-- `min_neutron_shift` and `max_neutron_shift` are the least and the greatest `neutron_shift` of the isotopes -/
theorem c_min_max      : table.all (·.cMinMax) = true := by decide +kernel
/-- masses increase strictly with the nucleon number and lie within 0.15 u of it (the entry 0 of an element without natural isotopes exempt) -/
theorem c_masses       : table.all (·.cMasses one) = true := by decide +kernel

theorem table_wf : table.all (·.wf one) = true := by
  rw [List.all_eq_true]
  intro e he
  simp only [Elem.wf, Bool.and_eq_true]
  exact ⟨⟨⟨⟨⟨⟨⟨List.all_eq_true.mp c_own_symbol e he, List.all_eq_true.mp c_iso_keys e he⟩,
    List.all_eq_true.mp c_shift e he⟩, List.all_eq_true.mp c_abund_range e he⟩,
    List.all_eq_true.mp c_abund_sum e he⟩, List.all_eq_true.mp c_most_abundant e he⟩,
    List.all_eq_true.mp c_min_max e he⟩, List.all_eq_true.mp c_masses e he⟩

/-- every element of the compiled table satisfies the Prop-level reading of the clauses -/
theorem table_wf_sound : ∀ e ∈ table, ElemWF one e :=
  fun e he => wf_sound one e (List.all_eq_true.mp table_wf e he)

/-- the replay of `data/build.rs`: the table is what `builtElement` (`prepare_element`, then `index_isotopes`) makes of the
    entries of `data/nist_mass.json` (`nist`, Gen/Nist.lean), in the order of their symbols.  Insertion sort is linear on a
    descending list and the data file ascends by symbol, so it is sorted from its far end (`.reverse`); in any other order
    this would still hold, only be dearer to evaluate -/
theorem table_eq_sorted :
    table = (stableSort (fun a b => lexLt a.sym b.sym) (nist.map NistElem.dropZero).reverse).map builtElement := by
  decide +kernel

/-- the compiled table is, value for value at six decimals, what `data/build.rs` produces from
    `data/nist_mass.json` (bit-exact model of the generator's float steps) -/
theorem table_from_nist : tableFromNist nist table = true := by
  refine tableFromNist_of_perm table_keys_nodup ?_
  rw [table_eq_sorted]
  refine (((stableSort_perm _ _).trans (List.reverse_perm _)).map _).trans ?_
  rw [List.map_map]
  exact .of_eq (List.map_congr_left fun n _ => congrArg Elem.indexIsotopes (prepareElement_dropZero n))

/-- the global table and the one built by `ChemicalElements::new()` are identical -/
theorem tables_identical : table = tableHelper := rfl

end Chem.Inst
