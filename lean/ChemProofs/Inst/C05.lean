import ChemProofs.Props.C05Sound
import ChemProofs.Props.C05Rejects
import ChemProofs.Gen.Table
import ChemProofs.Props.C05Named
/-
C05 — the two directions, and the named rejections, at the table regenerated from /repo.
-/
namespace Chem.Inst
open Chem Chem.Gen

theorem parse_no_panic_table (cc : CharClass) (s : List Nat) : parseFormula cc table s ≠ .panic :=
  parse_no_panic cc table s

/-- C05 converse at the compiled table: whatever the parser accepts is the rendering of a non-empty syntax
    tree that is well-formed over the compiled table (every symbol a table key with an upper-case initial, every
    bracketed isotope one the element has, every count a digit string that fits `i32`), and the composition
    returned is its denotation -/
theorem parse_sound_table (cc : CharClass) (hcc : cc.AsciiOK) (s : List Nat) (ents : Ents)
    (h : parseFormula cc table s = .ok ents) :
    ∃ ts : Spec.RTerms, ts.nonEmpty = true ∧ ts.wf table = true ∧ ts.render = s ∧
      ents.NoDupKeys ∧ ∀ k, ents.get k = ts.denote table k :=
  parse_sound cc hcc table s ents h

theorem parse_total_table (cc : CharClass) (hcc : cc.AsciiOK) (s : List Nat) :
    parseFormula cc table s = .err ∨
    ∃ ents, parseFormula cc table s = .ok ents ∧
      ∃ ts : Spec.RTerms, ts.nonEmpty = true ∧ ts.wf table = true ∧ ts.render = s ∧ ∀ k, ents.get k = ts.denote table k := by
  cases h : parseFormula cc table s with
  | err => exact Or.inl rfl
  | panic => exact absurd h (parse_no_panic cc table s)
  | ok ents =>
    obtain ⟨ts, h1, h2, h3, _, h5⟩ := parse_sound cc hcc table s ents h
    exact Or.inr ⟨ents, rfl, ts, h1, h2, h3, h5⟩

theorem table_noParenKeys : noParenKeys table = true := by decide +kernel

/-- whitespace, NUL, non-ASCII letters and superscripts are not characters of the compiled table's formulas -/
theorem table_foreign : formulaChar table 32 = false ∧ formulaChar table 0 = false ∧ formulaChar table 233 = false ∧
    formulaChar table 178 = false ∧ formulaChar table 20013 = false ∧ formulaChar table 45 = false := by decide +kernel

/-- at the compiled table: a string holding a space, NUL, `é`, `²`, `中` or `-` is rejected with an error value -/
theorem reject_junk_table (cc : CharClass) (hcc : cc.AsciiOK) (s : List Nat) (c : Nat)
    (hc : c = 32 ∨ c = 0 ∨ c = 233 ∨ c = 178 ∨ c = 20013 ∨ c = 45) (hs : c ∈ s) : parseFormula cc table s = .err := by
  have h := table_foreign
  refine reject_foreign_char cc hcc table s c ?_ hs
  rcases hc with rfl | rfl | rfl | rfl | rfl | rfl
  · exact h.1
  · exact h.2.1
  · exact h.2.2.1
  · exact h.2.2.2.1
  · exact h.2.2.2.2.1
  · exact h.2.2.2.2.2

/-- at the compiled table: unbalanced parentheses and empty groups are rejected with an error value -/
theorem reject_unbalanced_table (cc : CharClass) (hcc : cc.AsciiOK) (s : List Nat) (h : balanced s = false) :
    parseFormula cc table s = .err :=
  reject_unbalanced cc hcc table table_noParenKeys s h

theorem reject_empty_group_table (cc : CharClass) (hcc : cc.AsciiOK) (pre post : List Nat) :
    parseFormula cc table (pre ++ [40, 41] ++ post) = .err :=
  reject_empty_group cc hcc table table_noParenKeys pre post

theorem table_no_space : table.all (fun e => !e.tkey.contains 32) = true := by decide +kernel

theorem reject_space_table (cc : CharClass) (hcc : cc.AsciiOK) (s : List Nat) (hs : 32 ∈ s) :
    parseFormula cc table s = .err := reject_space cc hcc table table_no_space s hs

/-- `Xx…` : a symbol that is not in the table -/
theorem reject_Xx_table (cc : CharClass) (hcc : cc.AsciiOK) (rest : List Nat)
    (hrest : ∀ c, rest.head? = some c → isAsciiUpper c = true ∨ isAsciiDigit c = true ∨ c = 91 ∨ c = 40) :
    parseFormula cc table ([88, 120] ++ rest) = .err :=
  reject_unknown_symbol cc hcc table 88 [120] rest (by decide) (by decide) hrest (by decide +kernel)

/-- `C[15]…` : carbon has no isotope 15 -/
theorem reject_C15_table (cc : CharClass) (hcc : cc.AsciiOK) (rest : List Nat) :
    parseFormula cc table ([67] ++ [91] ++ [49, 53] ++ [93] ++ rest) = .err := by
  apply reject_unknown_isotope cc hcc table 67 [] [49, 53] rest (by decide) (by decide) (by decide) (by decide)
  intro e v hf hv
  have h15 : parseU16 [49, 53] = some 15 := by decide
  cases h15.symm.trans hv
  have hk : ((table.find? [67]).bind (fun e => e.iso? 15)).isSome = false := by decide +kernel
  rw [hf, Option.bind_some] at hk
  refine ⟨by decide, ?_⟩
  cases h : e.iso? 15 with
  | none => rfl
  | some i =>
    rw [h] at hk
    cases hk

/-- `C2147483648…` : a count above `i32::MAX` -/
theorem reject_bigcount_table (cc : CharClass) (hcc : cc.AsciiOK) (rest : List Nat)
    (hrest : ∀ c, rest.head? = some c → cc.numeric c = false) :
    parseFormula cc table ([67] ++ [50, 49, 52, 55, 52, 56, 51, 54, 52, 56] ++ rest) = .err :=
  reject_oversized_count cc hcc table 67 [] _ rest 2147483648 (by decide) (by decide) (by decide) (by decide) hrest

end Chem.Inst
