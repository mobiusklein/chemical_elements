import ChemProofs.Props.C17Handles
import ChemProofs.Gen.Table
/-
C17 — a concrete instance of the C-binding model (`cstep`, Model/CBinding.lean) and of the handle invariant
(`crun`, `crun_wf`, Props/C17Handles.lean): the compiled table, the plain ASCII character class, the table's key masses,
and a ten-call sequence evaluated by the kernel (`decide +kernel`; no `native_decide`).

  new; parse "H2O"; copy 1; set 0 "C[13]" 5; add 0 1; get 0 "H"; mass 2; parse "h2o" (error); free 1; free 0
-/
namespace Chem.Inst.C17Ex
open Chem Chem.Gen

def asciiCC : CharClass := ⟨isAsciiAlpha, isAsciiDigit, isAsciiUpper⟩

theorem asciiCC_ok : asciiCC.AsciiOK := fun _ _ => ⟨rfl, rfl, rfl⟩

/-- mass of a key over the compiled table (micro-units): `Elem.mostMass` for isotope 0, the isotope's `mass` for a fixed
    isotope the element has, 0 for a key that is not a table key -/
def tableKeyMass (k : Key) : Int :=
  match table.find? k.1 with
  | none => 0
  | some e =>
    if k.2 == 0 then e.mostMass
    else match e.iso? k.2 with
      | some i => i.mass
      | none => 0

/-- `crun` that also collects what each call returned -/
def ctrace (cc : CharClass) (T : Table) (m : Key → Int) : CState → List COp → Option (List COut × CState)
  | st, [] => some ([], st)
  | st, op :: ops => match cstep cc T m st op with
    | some (.ok (st', o)) => (ctrace cc T m st' ops).map fun r => (o :: r.1, r.2)
    | _ => none

/-- `ctrace` ends in the state `crun` ends in (and is defined exactly when `crun` is) -/
theorem ctrace_snd (cc : CharClass) (T : Table) (m : Key → Int) (ops : List COp) (st : CState) :
    (ctrace cc T m st ops).map (·.2) = crun cc T m st ops := by
  induction ops generalizing st with
  | nil => rfl
  | cons op ops ih =>
    simp only [ctrace, crun]
    cases hs : cstep cc T m st op with
    | none => rfl
    | some r =>
      cases r with
      | ok p => obtain ⟨s1, o⟩ := p; simp only [Option.map_map]; rw [← ih s1]; rfl
      | err | panic => rfl

/-- what is observable of a handle table: handle ↦ entries, and the next handle (`Comp` has no decidable equality) -/
def view (st : CState) : List (Nat × Ents) × Nat := (st.live.map fun x => (x.1, x.2.ents), st.next)

instance instDecEqEntry : DecidableEq (Nat × Ents) := inferInstance

def init : CState := ⟨[], 0⟩

/-- "H2O", "C[13]", "H", "h2o" as code points -/
def sH2O : List Nat := [72, 50, 79]
def sC13 : List Nat := [67, 91, 49, 51, 93]
def sH : List Nat := [72]
def sh2o : List Nat := [104, 50, 111]

/-- the calls before the failing parse, the failing parse, the calls after it -/
def pre : List COp := [.new, .parse sH2O, .copy 1, .set 0 sC13 5, .add 0 1, .get 0 sH, .mass 2]
def bad : COp := .parse sh2o
def post : List COp := [.free 1, .free 0]
def ops : List COp := pre ++ bad :: post

abbrev run (l : List COp) : Option CState := crun asciiCC table tableKeyMass init l
abbrev trace (l : List COp) : Option (List COut × CState) := ctrace asciiCC table tableKeyMass init l

/-- **the whole evaluation**: return codes / values / out-handles of the ten calls, and the final handle table.
    `get 0 "H"` returns 2 (after `add 0 1`), `mass 2` returns 18.010565 u (micro-units), the lower-case parse returns
    rc = 1 with a null handle, everything else rc = 0; at the end only handle 2 (the copy of H2O) is live -/
theorem trace_ops :
    (trace ops).map (fun r => (r.1, view r.2)) = some
      ([⟨0, none, some 0⟩, ⟨0, none, some 1⟩, ⟨0, none, some 2⟩, ⟨0, none, none⟩, ⟨0, none, none⟩,
        ⟨0, some 2, none⟩, ⟨0, some 18010565, none⟩, ⟨1, none, none⟩, ⟨0, none, none⟩, ⟨0, none, none⟩],
       ([(2, [(([72], 0), 2), (([79], 0), 1)])], 3)) := by decide +kernel

/-- the state just before the failing parse: handle 0 = C[13]5 H2 O, handles 1 and 2 = H2O -/
theorem view_pre :
    (run pre).map view = some
      ([(0, [(([67], 13), 5), (([72], 0), 2), (([79], 0), 1)]), (1, [(([72], 0), 2), (([79], 0), 1)]),
        (2, [(([72], 0), 2), (([79], 0), 1)])], 3) := by decide +kernel

theorem view_final : (run ops).map view = some ([(2, [(([72], 0), 2), (([79], 0), 1)])], 3) := by
  have := congrArg (Option.map Prod.snd) trace_ops
  rw [Option.map_map] at this
  rw [show run ops = _ from (ctrace_snd ..).symm, Option.map_map]
  exact this

/-- **the run stays inside the contract** -/
theorem run_ok : ∃ st', run ops = some st' := by
  cases h : run ops with
  | some st => exact ⟨st, rfl⟩
  | none => have := view_final; rw [h] at this; cases this

/-- **... and every state it ends in is well-formed, has exactly one live handle (handle 2, holding H2O), next = 3** -/
theorem run_final (st' : CState) (h : run ops = some st') :
    st'.WF ∧ st'.live.length = 1 ∧ st'.live.map (·.1) = [2] ∧ st'.find 2 ≠ none ∧ st'.find 0 = none ∧ st'.find 1 = none ∧
      view st' = ([(2, [(([72], 0), 2), (([79], 0), 1)])], 3) := by
  have hw : st'.WF := crun_wf asciiCC table tableKeyMass ops init st' CState.init_wf h
  have hv := view_final
  rw [h] at hv
  simp only [Option.map_some, Option.some.injEq] at hv
  obtain ⟨live, next⟩ := st'
  obtain ⟨hl, hn⟩ := Prod.mk.inj hv
  obtain ⟨⟨a, b⟩, rfl, hx⟩ := List.map_eq_singleton_iff.1 hl
  obtain ⟨ha, hb⟩ := Prod.mk.inj hx
  dsimp only at ha hb hn
  subst ha hn
  refine ⟨hw, rfl, rfl, ?_, rfl, rfl, ?_⟩
  · simp [CState.find]
  · simp [view, hb]

/-- **the failed parse is an error value, not an abort, and leaves the handle table untouched** — on the parser: -/
theorem parse_h2o_err : parseFormula asciiCC table sh2o = .err := by decide +kernel

/-- ... on the binding: from *any* state the call returns rc = 1, a null out-handle, and the same state -/
theorem bad_step (st : CState) :
    cstep asciiCC table tableKeyMass st bad = some (.ok (st, { rc := 1, handle := none })) := by
  simp only [bad, cstep, parse_h2o_err]

/-- ... in the run: the state before the failing call is the state after it -/
theorem bad_untouched : run (pre ++ [bad]) = run pre ∧ (run pre).isSome = true := by
  refine ⟨?_, Option.isSome_map.symm.trans (congrArg Option.isSome view_pre)⟩
  show crun asciiCC table tableKeyMass init (pre ++ [bad]) = crun asciiCC table tableKeyMass init pre
  rw [crun_append]
  cases crun asciiCC table tableKeyMass init pre with
  | none => rfl
  | some st => simp only [Option.bind_some, crun, bad_step]

/-- **`get 0 "H"` returned 2 after the add**, stated on the step itself: in the state the five calls before it lead to -/
theorem get_H (st : CState) (h : crun asciiCC table tableKeyMass init (pre.take 5) = some st) :
    (cstep asciiCC table tableKeyMass st (.get 0 sH)).map (fun r => match r with | .ok p => some p.2 | _ => none) =
      some (some { rc := 0, value := some 2 }) := by
  have hv : (crun asciiCC table tableKeyMass init (pre.take 5)).map
      (fun s => (cstep asciiCC table tableKeyMass s (.get 0 sH)).map
        (fun r => match r with | .ok p => some p.2 | _ => none)) = some (some (some { rc := 0, value := some 2 })) := by
    decide +kernel
  rw [h] at hv
  exact Option.some.inj hv

/-- cross-checks of the pieces on their own: the parser, the spec parser, the masses -/
example : parseFormula asciiCC table sH2O = .ok [(([72], 0), 2), (([79], 0), 1)] := by decide +kernel
example : parseSpec table sC13 = .ok ([67], 13) := by decide +kernel
example : tableKeyMass ([72], 0) = 1007825 ∧ tableKeyMass ([79], 0) = 15994915 ∧ tableKeyMass ([67], 13) = 13003355 ∧
    tableKeyMass ([104], 0) = 0 := by decide +kernel

/-- outside the contract: a freed handle used again has no successor state -/
example : (run (ops ++ [.get 0 sH])).isSome = false := by decide +kernel

end Chem.Inst.C17Ex

