import ChemProofs.Lemmas.Sorted
import ChemProofs.Lemmas.Table
import ChemProofs.Gen.Table
/-
What the instantiations share about the compiled table.  `harness dump-table` sorts the elements by key
(harness/src/table.rs) and tools/gen_table.py keeps that order, so one pass over neighbouring keys shows that no key occurs
twice; every "element found under its own key" then follows from `Table.find?_of_mem` instead of a lookup per element.
Should the dump ever come in another order, `table_sorted` fails to check: nothing rests on the order silently.
-/
namespace Chem.Inst
open Chem Chem.Gen

theorem table_sorted : chainB lexLt (table.map (·.tkey)) = true := by decide +kernel

theorem table_keys_nodup : (table.map (·.tkey)).Nodup := nodup_of_sorted _ table_sorted

theorem table_find?_of_mem {e : Elem} (he : e ∈ table) : table.find? e.tkey = some e :=
  Table.find?_of_mem table_keys_nodup he

/-- what `KeyOK` and the element-specification parser need of an element, beyond being found -/
def elemKeyB (el : Elem) : Bool :=
  el.sym == el.tkey && el.isos.all fun i => decide (i.key ≤ 65535)

theorem table_elemKey : table.all elemKeyB = true := by decide +kernel

theorem table_tkey {e : Elem} (he : e ∈ table) : e.tkey = e.sym := by
  have h := List.all_eq_true.1 table_elemKey e he
  simp only [elemKeyB, Bool.and_eq_true, beq_iff_eq] at h
  exact h.1.symm

theorem table_iso_u16 {e : Elem} (he : e ∈ table) {i : Iso} (hi : i ∈ e.isos) : i.key ≤ 65535 := by
  have h := List.all_eq_true.1 table_elemKey e he
  simp only [elemKeyB, Bool.and_eq_true, List.all_eq_true, decide_eq_true_eq] at h
  exact h.2 i hi

theorem table_find?_sym {e : Elem} (he : e ∈ table) : table.find? e.sym = some e :=
  table_tkey he ▸ table_find?_of_mem he

/-- hence the symbol determines the element -/
theorem table_sym_inj {x y : Elem} (hx : x ∈ table) (hy : y ∈ table) (h : x.sym = y.sym) : x = y :=
  Option.some.inj ((table_find?_sym hx).symm.trans (h ▸ table_find?_sym hy))

theorem symbols_no_bracket : table.all (fun e => !e.sym.contains 91 && !e.sym.contains 93) = true := by
  decide +kernel

theorem table_no_bracket {e : Elem} (he : e ∈ table) : 91 ∉ e.sym := by
  have hb := List.all_eq_true.1 symbols_no_bracket e he
  simp only [Bool.and_eq_true, Bool.not_eq_true', List.contains_eq_mem, decide_eq_false_iff_not] at hb
  exact hb.1

end Chem.Inst
