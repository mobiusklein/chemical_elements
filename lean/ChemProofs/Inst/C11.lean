import ChemProofs.Props.C11T
import ChemProofs.Gen.Table
/-
The hypotheses the convolution theorems put on the isotope distributions, discharged for every element of the compiled
table: abundances lie in [0, 1] (`Unit01`), they sum to at most 1 — in fact to exactly 1 — (`mass ≤ 1`, the bound without
which the threshold theorem is false: `threshold_counterexample`), and the distribution is not empty.
-/
namespace Chem
open Chem.Gen

/-- the isotope distribution of a table element as the convolution sees it: (mass, abundance) in table units -/
def distOf (e : Elem) : Dist := e.isos.map fun i => ((i.mass : Rat) / one, (i.abund : Rat) / one)

def unit01B (d : Dist) : Bool := d.all fun x => decide (0 ≤ x.2) && decide (x.2 ≤ 1)

theorem unit01B_sound (d : Dist) (h : unit01B d = true) : Unit01 d := by
  intro x hx
  simpa only [Bool.and_eq_true, decide_eq_true_eq] using List.all_eq_true.mp h x hx

/-- every element of the compiled table: abundances in [0, 1], summing to exactly 1, at least one isotope -/
theorem table_dists : table.all (fun e => unit01B (distOf e) && decide (mass (distOf e) = 1) && !(distOf e).isEmpty) = true := by
  decide +kernel

theorem table_unit01 (e : Elem) (he : e ∈ table) : Unit01 (distOf e) ∧ mass (distOf e) ≤ 1 := by
  have := List.all_eq_true.mp table_dists e he
  simp only [Bool.and_eq_true, decide_eq_true_eq] at this
  exact ⟨unit01B_sound _ this.1.1, le_of_eq this.1.2⟩

/-- so the threshold theorem applies to every composition over the table: for a positive threshold that some
    arrangement reaches, outside the degenerate case (a single entry with count ≤ 1), the result is exactly the
    arrangements of probability at least `t`, renormalised over themselves, sorted, each at least `t` -/
theorem threshold_table {t : Rat} (ht : 0 < t) (es : List (Elem × Nat)) (hne : es ≠ []) (hT : ∀ x ∈ es, x.1 ∈ table)
    (hnd : ¬ Degenerate (es.map fun x => (distOf x.1, x.2)))
    (hK : (arrangements (es.map fun x => (distOf x.1, x.2))).filter (fun x => decide (t ≤ x.2)) ≠ []) (z : Int) (c : Rat) :
    ∃ peaks, isotopicConvolution ((es.map fun x => (distOf x.1, x.2)).map (fun e => (e.1, (e.2 : Int)))) z c t = some peaks ∧
      total peaks = 1 ∧ peaks.Pairwise (fun p q => p.mz ≤ q.mz) ∧ (∀ p ∈ peaks, t ≤ p.int) := by
  have hes : ∀ x ∈ es.map (fun x => (distOf x.1, x.2)), Unit01 x.1 ∧ mass x.1 ≤ 1 :=
    List.forall_mem_map.mpr fun y hy => table_unit01 y.1 (hT y hy)
  obtain ⟨p, h1, h2, h3, _, h5⟩ :=
    isotopicConvolution_threshold_partial' ht (by simpa using hne) (fun x hx => (hes x hx).1)
      (fun x hx => (hes x hx).2) hnd hK z c
  exact ⟨p, h1, h2, h3, h5⟩

end Chem
