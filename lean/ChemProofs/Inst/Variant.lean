import ChemProofs.Drv.Comp
import ChemProofs.Inst.Table
/-
The *variant elements* of the composition correspondence (DESIGN §7.6): caller-made `Element` records — same symbol and
isotopes as the stock element, the heaviest other isotope declared most abundant — which the driver carries as further table
rows under symbols no formula string spells (`Sym^3`).  What makes that sound: the extended table still has pairwise distinct
keys, because the stock keys are distinct and contain no '^' (so a stock symbol is never shadowed and a variant symbol finds
its own row); a variant keeps the isotopes of its element and names another of them as most abundant, at that isotope's mass.
At the end `drvCC_asciiOK`: the driver's character classes are right on ASCII, which is what the `cc`-parametric theorems ask.
-/
namespace Chem
open Chem.Drv

theorem variantOf_tkey {e v : Elem} (h : variantOf e = some v) : v.tkey = e.tkey ++ [94, 51] := by
  simp only [variantOf] at h
  split at h
  · injection h with h
    rw [← h]
  · cases h

/-- no stock key contains '^' … -/
theorem table_no_caret : Gen.table.all (fun e => !e.tkey.contains 94) = true := by decide +kernel

/-- … so a variant key, which ends in "^3", is not a stock key -/
theorem variant_not_stock {v : Elem} (hv : v ∈ Gen.table.filterMap variantOf) :
    v.tkey ∉ Gen.table.map (·.tkey) := by
  obtain ⟨e, _, he⟩ := List.mem_filterMap.1 hv
  intro hm
  obtain ⟨x, hx, hxv⟩ := List.mem_map.1 hm
  have := List.all_eq_true.1 table_no_caret x hx
  rw [hxv, variantOf_tkey he] at this
  simp at this

theorem drvTable_keys_nodup : (drvTable.map (·.tkey)).Nodup := by
  rw [drvTable, List.map_append, List.nodup_append]
  refine ⟨Inst.table_keys_nodup, ?_, fun a ha b hb hab => ?_⟩
  · -- variants of distinct elements have distinct keys: appending "^3" is injective
    refine List.pairwise_map.2 ((List.pairwise_map.1 Inst.table_keys_nodup).filterMap _ fun a a' hne v hv v' hv' e => hne ?_)
    rw [variantOf_tkey hv, variantOf_tkey hv'] at e
    exact List.append_cancel_right e
  · obtain ⟨v, hv, rfl⟩ := List.mem_map.1 hb
    exact variant_not_stock hv (hab ▸ ha)

theorem drvTable_keys_distinct : nodupSyms (drvTable.map (·.tkey)) = true := (nodupSyms_iff _).2 drvTable_keys_nodup

/-- looking up a stock symbol in the extended table gives the stock row -/
theorem drvTable_find_stock : Gen.table.all (fun e => drvTable.find? e.tkey == some e) = true :=
  List.all_eq_true.2 fun _ he => beq_iff_eq.2 (Table.find?_of_mem drvTable_keys_nodup (List.mem_append_left _ he))

/-- ... and a variant symbol is not a stock symbol -/
theorem variant_fresh : (Gen.table.filterMap variantOf).all (fun v => (Gen.table.find? v.tkey).isNone) = true :=
  List.all_eq_true.2 fun v hv => by
    rw [Table.find?_eq_none (variant_not_stock hv)]
    rfl

/-- `variant_rows` without the lookup, which `drvTable_keys_nodup` gives -/
theorem variant_rows_local : Gen.table.all (fun e =>
    match variantOf e with
    | none => e.isos.length ≤ 1
    | some v => v.isos == e.isos && v.mostIso != e.mostIso &&
        (v.iso? v.mostIso).map (·.mass) == some v.mostMass && (e.iso? v.mostIso).isSome) = true := by
  decide +kernel

/-- every element with at least two isotopes has a variant; it is found under its own symbol, keeps the isotope list, and its
    most abundant isotope is another isotope of the element, at that isotope's mass -/
theorem variant_rows : Gen.table.all (fun e =>
    match variantOf e with
    | none => e.isos.length ≤ 1
    | some v => drvTable.find? v.tkey == some v && v.isos == e.isos && v.mostIso != e.mostIso &&
        (v.iso? v.mostIso).map (·.mass) == some v.mostMass && (e.iso? v.mostIso).isSome) = true :=
  List.all_eq_true.2 fun e he => by
    have h := List.all_eq_true.1 variant_rows_local e he
    cases hv : variantOf e with
    | none =>
      rw [hv] at h
      exact h
    | some v =>
      rw [hv] at h
      have hf := Table.find?_of_mem drvTable_keys_nodup (List.mem_append_right _ (List.mem_filterMap.2 ⟨e, he, hv⟩))
      simpa only [hf, beq_self_eq_true, Bool.true_and] using h

/-- non-vacuity: the five elements the variant histories draw on have variants -/
example : (["C", "H", "O", "Cl", "Fe"].map (fun s => (Gen.table.find? (strSym s)).bind variantOf |>.isSome)) =
    [true, true, true, true, true] := by decide +kernel

/-- the character-class table the driver instantiates the models with agrees with ASCII on ASCII: every theorem that asks for
    `cc.AsciiOK` (the parser's totality, soundness and completeness; the specification text theorems) applies to the driver's
    instance.  Beyond ASCII the table lists the characters the generators use; the orchestrator compares it with Rust's
    `char::is_alphabetic` / `is_numeric` on every generated character on every run. -/
theorem drvCC_asciiOK : drvCC.AsciiOK := by
  unfold CharClass.AsciiOK
  decide +kernel

end Chem
