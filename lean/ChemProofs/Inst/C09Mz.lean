import ChemProofs.Props.C09Mz
import ChemProofs.Inst.C09Strict
import ChemProofs.Inst.C03Exact
import ChemProofs.Drv.Brain
/-
C09 — strictly increasing m/z of the RETURNED coarse pattern, at the regenerated table.

For any composition over `domB` elements of the compiled table with pairwise distinct symbols (any counts,
any size), any constants `K` with `K.one = one` (the table's scale, 10⁶), any request whose resolved order
is at most 108 (i.e. at most 109 variants computed: `table_centre_strict` covers the steps `j → j+1`, `j ≤ 107`),
any charge `z` (0 included) and any carrier: whenever `brainVariants` returns `.ok out`, the m/z values of
`out` are STRICTLY increasing.
A `fixed n` request with `n ≤ 109` (any `n`, also `n ≤ 0`) resolves to such an order.
-/
namespace Chem.Inst
open Chem Chem.Gen

/-- **C09 at the compiled table, returned list**: resolved order ≤ 108 ⇒ strictly increasing m/z -/
theorem table_mz_strict (K : BrainConsts) (hK : K.one = (one : Rat)) (c : List (Elem × Nat)) (req : PeakReq)
    (z : Int) (carrier : Rat) (hT : ∀ x ∈ c, x.1 ∈ table) (h : ∀ x ∈ c, domB x.1 = true)
    (hnodup : (c.map fun x => x.1.sym).Nodup)
    (hord : (resolveOrder K (toB c) req).toNat ≤ 108)
    (out : List Peak) (hout : brainVariants K (toB c) req z carrier = .ok out) :
    out.Pairwise (fun a b => a.mz < b.mz) := by
  have hone : 0 < K.one := by
    rw [hK]
    norm_num [one]
  have H := exactHyp_of_domB K (ne_of_gt hone) c req h hnodup
  refine variants_mz_strict K c req z carrier _ H hone (fun x hx => (domB_facts x.1 (h x hx)).1)
    (fun e => (e.mostMass : Rat) / (one : Rat)) tDlo tDhi ?_ ?_ out hout
  · intro x hx
    rw [hK]
    exact table_incrOK x.1 (hT x hx) (h x hx)
  · intro j hj
    exact table_gap j (by omega)

theorem resolve_fixed_le (K : BrainConsts) (c : BComp) (n : Int) (hn : n ≤ 109) :
    (resolveOrder K c (.fixed n)).toNat ≤ 108 := by
  rw [resolveOrder_fixed_eq]
  exact Int.toNat_le.2 (min_le_of_left_le (max_le (max_le (by omega) (by decide)) (by decide)))

theorem table_mz_strict_fixed (K : BrainConsts) (hK : K.one = (one : Rat)) (c : List (Elem × Nat)) (n : Int)
    (hn : n ≤ 109) (z : Int) (carrier : Rat) (hT : ∀ x ∈ c, x.1 ∈ table) (h : ∀ x ∈ c, domB x.1 = true)
    (hnodup : (c.map fun x => x.1.sym).Nodup)
    (out : List Peak) (hout : brainVariants K (toB c) (.fixed n) z carrier = .ok out) :
    out.Pairwise (fun a b => a.mz < b.mz) :=
  table_mz_strict K hK c (.fixed n) z carrier hT h hnodup (resolve_fixed_le K _ n hn) out hout

theorem table_mz_strict_brainK (c : List (Elem × Nat)) (n : Int)
    (hn : n ≤ 109) (z : Int) (carrier : Rat) (hT : ∀ x ∈ c, x.1 ∈ table) (h : ∀ x ∈ c, domB x.1 = true)
    (hnodup : (c.map fun x => x.1.sym).Nodup)
    (out : List Peak) (hout : brainVariants Drv.brainK (toB c) (.fixed n) z carrier = .ok out) :
    out.Pairwise (fun a b => a.mz < b.mz) :=
  table_mz_strict_fixed Drv.brainK brainK_unit.2 c n hn z carrier hT h hnodup out hout

def elemOf (s : Sym) : Elem := (table.find? s).getD default

/-- C₆H₁₂O₆ over the compiled table (symbols as code points: C = 67, H = 72, O = 79) -/
def glucose : List (Elem × Nat) := [(elemOf [67], 6), (elemOf [72], 12), (elemOf [79], 6)]

theorem glucose_table : ∀ x ∈ glucose, x.1 ∈ table := by decide +kernel
theorem glucose_dom : ∀ x ∈ glucose, domB x.1 = true := by decide +kernel
theorem glucose_nodup : (glucose.map fun x => x.1.sym).Nodup := by decide +kernel
theorem glucose_syms : glucose.map (fun x => (x.1.sym, x.2)) = [([67], 6), ([72], 12), ([79], 6)] := by
  decide +kernel

/-- the hypotheses are satisfiable and the conclusion is not vacuous: for glucose with 5 peaks, at any
    charge and carrier, `brainVariants` returns a list, and its m/z values increase strictly -/
theorem glucose_strict (z : Int) (carrier : Rat) :
    ∃ out, brainVariants Drv.brainK (toB glucose) (.fixed 5) z carrier = .ok out ∧
      out.Pairwise (fun a b => a.mz < b.mz) := by
  have H := exactHyp_of_domB Drv.brainK brainK_facts.1 glucose (.fixed 5) glucose_dom glucose_nodup
  exact ⟨_, H.variants_eq z carrier, table_mz_strict_brainK glucose 5 (by norm_num) z carrier glucose_table
    glucose_dom glucose_nodup _ (H.variants_eq z carrier)⟩

end Chem.Inst

