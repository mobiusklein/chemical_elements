import ChemProofs.Props.C01
import ChemProofs.Inst.Table
/-
C01 — instantiation at the table regenerated from /repo: the symbol hypothesis of `parse_render`
holds of it, for every character class that is right on ASCII: the shape of every symbol is evaluated by the kernel,
that each is found under itself comes from Inst/Table.lean.
-/
namespace Chem.Inst
open Chem Chem.Gen

theorem table_symShapes : table.all (fun e => !isUpperHead e.sym || symShapeAscii e.sym) = true := by decide +kernel

theorem table_symbolsOKAscii : symbolsOKAscii table = true :=
  List.all_eq_true.2 fun e he => by simpa [table_find?_sym he] using List.all_eq_true.1 table_symShapes e he

theorem table_symbolsOK (cc : CharClass) (hcc : cc.AsciiOK) : SymbolsOK cc table :=
  symbolsOK_of_ascii cc hcc table table_symbolsOKAscii

theorem parse_render_table (cc : CharClass) (hcc : cc.AsciiOK) (ts : Spec.Terms)
    (hne : ts ≠ .nil) (hwf : WF table ts) :
    ∃ ents, parseFormula cc table ts.render = .ok ents ∧ (∀ k, ents.get k = ts.denote k) ∧
            (∀ k ∈ ents.keys, k ∈ ts.mentioned) :=
  parse_render cc hcc table (table_symbolsOK cc hcc) ts hne hwf

/-! ### non-vacuity of `parse_render_table`: `(CH3)2C[13]O` (a group with a count, an implicit count, an explicit count,
a fixed isotope) -/
open Chem.Spec

/-- `(CH3)2C[13]O` as a syntax tree -/
def acetone13 : Terms :=
  .cons (.group (.cons (.elem [67] none none) (.cons (.elem [72] none (some 3)) .nil)) (some 2))
    (.cons (.elem [67] (some 13) none) (.cons (.elem [79] none none) .nil))

/-- its text is the string `(CH3)2C[13]O` -/
theorem acetone13_render :
    acetone13.render = [40, 67, 72, 51, 41, 50, 67, 91, 49, 51, 93, 79] := by decide +kernel

theorem acetone13_wf : WF table acetone13 := by decide +kernel

/-- what the grammar assigns: C 2, H 6, C[13] 1, O 1 (and 0 to, e.g., N and C[14]) -/
theorem acetone13_denote :
    acetone13.denote ([67], 0) = 2 ∧ acetone13.denote ([72], 0) = 6 ∧ acetone13.denote ([67], 13) = 1 ∧
    acetone13.denote ([79], 0) = 1 ∧ acetone13.denote ([78], 0) = 0 ∧ acetone13.denote ([67], 14) = 0 := by
  decide +kernel

theorem acetone13_mentioned :
    acetone13.mentioned = [([67], 0), ([72], 0), ([67], 13), ([79], 0)] := by decide +kernel

/-- **`parse_render_table` applies to `(CH3)2C[13]O`**: for every character class that is right on ASCII the
    parser accepts the text `(CH3)2C[13]O` and returns a composition with C 2, H 6, C[13] 1, O 1, zero for
    every other key, and no entries besides those four keys -/
theorem parse_acetone13 (cc : CharClass) (hcc : cc.AsciiOK) :
    ∃ ents, parseFormula cc table [40, 67, 72, 51, 41, 50, 67, 91, 49, 51, 93, 79] = .ok ents ∧
      (∀ k, ents.get k = acetone13.denote k) ∧
      ents.get ([67], 0) = 2 ∧ ents.get ([72], 0) = 6 ∧ ents.get ([67], 13) = 1 ∧ ents.get ([79], 0) = 1 ∧
      (∀ k ∈ ents.keys, k ∈ [(([67] : Sym), 0), ([72], 0), ([67], 13), ([79], 0)]) := by
  obtain ⟨ents, hp, hg, hk⟩ := parse_render_table cc hcc acetone13 nofun acetone13_wf
  rw [acetone13_render] at hp
  rw [acetone13_mentioned] at hk
  obtain ⟨d1, d2, d3, d4, _⟩ := acetone13_denote
  exact ⟨ents, hp, hg, by rw [hg, d1], by rw [hg, d2], by rw [hg, d3], by rw [hg, d4], hk⟩

/-- the plain ASCII character class satisfies `AsciiOK`, so the theorem above is not vacuous in `cc` -/
def asciiCC : CharClass := ⟨isAsciiAlpha, isAsciiDigit, isAsciiUpper⟩

theorem asciiCC_ok : asciiCC.AsciiOK := fun _ _ => ⟨rfl, rfl, rfl⟩

/-- cross-check by direct evaluation of the parser model at the ASCII class -/
example : parseFormula asciiCC table [40, 67, 72, 51, 41, 50, 67, 91, 49, 51, 93, 79] =
    .ok [(([67], 0), 2), (([72], 0), 6), (([67], 13), 1), (([79], 0), 1)] := by decide +kernel

end Chem.Inst
