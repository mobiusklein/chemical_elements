import ChemProofs.Props.C09
import ChemProofs.Inst.Consts
/-
C09 — the request-resolution theorems of `Props/C09.lean` instantiated at the constants the translator read from the source
(`Drv.brainK`), with the hypotheses on the constants (`1 ≤ maxIter`, `1 ≤ guessCap`, `maxIter ≤ i32::MAX`) discharged by
`brainK_facts`.  The hypothesis on the composition (`0 ≤ maxVariants c`) stays explicit where the general theorem has it.
-/
namespace Chem
open Chem.Drv

theorem brainK_maxIter_pos : 1 ≤ brainK.maxIter := brainK_facts.2.1
theorem brainK_maxIter_i32 : brainK.maxIter ≤ 2147483647 := brainK_facts.2.2.1
theorem brainK_guessCap_pos : 1 ≤ brainK.guessCap := brainK_facts.2.2.2.1

theorem resolve_guess_brainK (c : BComp) :
    resolveOrder brainK c .guess =
      min (min (poissonN (monoMassOf c brainK.one) brainK.lambdaFactor brainK.guessFraction brainK.maxIter : Int)
        brainK.guessCap) (maxVariants c) :=
  resolve_guess brainK c brainK_maxIter_pos brainK_guessCap_pos

/-- ... hence never above the default cap, which is the literal 300 -/
theorem resolve_guess_le_300 (c : BComp) : resolveOrder brainK c .guess ≤ 300 := by
  have h := resolve_guess_cap brainK c brainK_maxIter_pos brainK_guessCap_pos
  have h300 : brainK.guessCap = 300 := brainK_eq_spec.2.2.2.1
  omega

theorem resolve_percent_brainK (c : BComp) (f : Rat) :
    resolveOrder brainK c (.percent f) =
      resolveOrder brainK c (.fixed (poissonN (monoMassOf c brainK.one) brainK.lambdaFactor f brainK.maxIter)) :=
  resolve_percent brainK c brainK_maxIter_pos brainK_maxIter_i32 f

theorem resolve_percent_val_brainK (c : BComp) (f : Rat) :
    resolveOrder brainK c (.percent f) =
      min ((poissonN (monoMassOf c brainK.one) brainK.lambdaFactor f brainK.maxIter : Int) - 1) (maxVariants c) :=
  resolve_percent_val brainK c brainK_maxIter_pos f

/-- every request resolves to an order in `0 ..= V` (this one needs nothing of the constants) -/
theorem resolve_bounds_brainK (c : BComp) (hV : 0 ≤ maxVariants c) (req : PeakReq) :
    0 ≤ resolveOrder brainK c req ∧ resolveOrder brainK c req ≤ maxVariants c :=
  resolve_bounds brainK c hV req

theorem resolve_toNat_brainK (c : BComp) (hV : 0 ≤ maxVariants c) (req : PeakReq) :
    ((resolveOrder brainK c req).toNat : Int) = resolveOrder brainK c req :=
  resolve_toNat brainK c hV req

end Chem

