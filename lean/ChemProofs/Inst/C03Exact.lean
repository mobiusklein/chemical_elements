import ChemProofs.Props.C03Exact
import ChemProofs.Inst.C03
import ChemProofs.Inst.Consts
/-
C03Exact on the regenerated table: every composition over `domB` elements (see Inst/C03.lean: gap-free
ladder, lightest isotope = reference, positive abundances and masses, recorded monoisotopic mass = mass
of the lightest isotope) with pairwise distinct symbols satisfies `ExactHyp`, so `variants_exact`,
`variants_ratio_pos`, … apply to it; with increasing isotope masses (`table_massInc`) so does
`variants_mz_in_range`.
-/
namespace Chem.Inst
open Chem Chem.Gen

theorem exactHyp_of_domB (K : BrainConsts) (hone : K.one ≠ 0) (c : List (Elem × Nat)) (req : PeakReq)
    (h : ∀ x ∈ c, domB x.1 = true) (hnodup : (c.map fun x => x.1.sym).Nodup) :
    ExactHyp K c req (resolveOrder K (toB c) req).toNat :=
  ExactHyp.of_dom K c req hone (fun x hx => domB_sound x.1 (h x hx))
    (fun x hx i hi => ne_of_gt ((domB_facts x.1 (h x hx)).1 i hi))
    (fun x hx => (domB_facts x.1 (h x hx)).2.1) (fun x hx => (domB_facts x.1 (h x hx)).2.2) hnodup

/-- isotope masses listed in (weakly) increasing order: neighbours are compared, the rest is transitivity -/
theorem table_massInc : table.all (fun e => chainB (fun a b => decide (a.mass ≤ b.mass)) e.isos) = true := by
  decide +kernel

theorem massInc_of_mem {e : Elem} (he : e ∈ table) : e.isos.Pairwise (fun a b => a.mass ≤ b.mass) := by
  have h := pairwise_of_chainB (r := fun a b : Iso => decide (a.mass ≤ b.mass))
    (fun _ _ _ h1 h2 => decide_eq_true (Int.le_trans (of_decide_eq_true h1) (of_decide_eq_true h2))) _
    (List.all_eq_true.1 table_massInc e he)
  exact h.imp of_decide_eq_true

/-- the returned pattern of any composition over `domB` table elements lies in the mass range -/
theorem table_mz_in_range (K : BrainConsts) (hone : 0 < K.one) (c : List (Elem × Nat)) (req : PeakReq)
    (z : Int) (carrier : Rat) (hT : ∀ x ∈ c, x.1 ∈ table) (h : ∀ x ∈ c, domB x.1 = true)
    (hnodup : (c.map fun x => x.1.sym).Nodup) :
    ∃ peaks, brainVariants K (toB c) req z carrier = .ok peaks ∧
      ∀ p ∈ peaks, 0 < p.int ∧
        chargedMz (monoMassOf (toB c) K.one) z carrier ≤ p.mz ∧
        p.mz ≤ chargedMz (massBound (fun e => (heaviest e : Rat) / K.one) c) z carrier :=
  variants_mz_in_range (exactHyp_of_domB K (ne_of_gt hone) c req h hnodup) z carrier hone
    (fun x hx => (domB_facts x.1 (h x hx)).1)
    (fun x hx => massInc_of_mem (hT x hx))

/-! ### "single atom" on the regenerated table: for every element of the table that lies in the domain (`domB`, the 67
elements of `dom_count`), one atom of it gives exactly one peak per tabulated isotope, at that isotope's mass, with its
normalised abundance (`single_atom_all`, all per-element hypotheses discharged by the kernel over the whole table) -/
open Chem.Drv

/-- the share of every isotope of `e` reaches the cut `1e-10` -/
def shareB (e : Elem) : Bool :=
  e.isos.all fun i => decide ((1 : Rat) / 10000000000 ≤ (i.abund : Rat) / (e.isos.map fun k => (k.abund : Rat)).sum)

theorem shareB_sound (e : Elem) (h : shareB e = true) :
    ∀ i ∈ e.isos, (1 : Rat) / 10000000000 ≤ (i.abund : Rat) / (e.isos.map fun k => (k.abund : Rat)).sum :=
  fun i hi => of_decide_eq_true (List.all_eq_true.1 h i hi)

theorem table_share : table.all (fun e => !domB e || shareB e) = true := by decide +kernel

/-- C03, single atoms, for any constants with positive unit and a cut of at most `1e-10` -/
theorem single_atom_table_of (K : BrainConsts) (hone : 0 < K.one) (hcut : K.cut ≤ 1 / 10000000000)
    (e : Elem) (he : e ∈ table) (hd : domB e = true) (z : Int) (carrier : Rat) :
    brainVariants K (toB [(e, 1)]) (.fixed e.isos.length) z carrier =
      .ok (e.isos.map (isoPeak e K.one z carrier)) := by
  have hf := domB_facts e hd
  have hinc := massInc_of_mem he
  have hsh : shareB e = true := by simpa [hd] using List.all_eq_true.1 table_share e he
  exact single_atom_all K e z carrier (domB_sound e hd) hone (fun i hi => ne_of_gt (hf.1 i hi)) hf.2.1 hf.2.2 hinc
    (fun i hi => le_trans hcut (shareB_sound e hsh i hi))

/-- C03, single atoms, with the constants translated from the source (`one = 10^6`, `cut = 1e-10`) -/
theorem single_atom_table (e : Elem) (he : e ∈ table) (hd : domB e = true) (z : Int) (carrier : Rat) :
    brainVariants brainK (toB [(e, 1)]) (.fixed e.isos.length) z carrier =
      .ok (e.isos.map (isoPeak e brainK.one z carrier)) :=
  single_atom_table_of brainK brainK_unit.1 brainK_eq_spec.2.2.2.2.2.le e he hd z carrier

/-- the same for `specK`: the Poisson and cap literals the properties name; unit and cut stay the
    translated ones (`specK := { brainK with … }`), which is why the facts about `brainK` apply -/
theorem single_atom_table_spec (e : Elem) (he : e ∈ table) (hd : domB e = true) (z : Int) (carrier : Rat) :
    brainVariants specK (toB [(e, 1)]) (.fixed e.isos.length) z carrier =
      .ok (e.isos.map (isoPeak e specK.one z carrier)) :=
  single_atom_table_of specK brainK_unit.1 brainK_eq_spec.2.2.2.2.2.le e he hd z carrier

/-- non-vacuity: 67 elements satisfy the hypotheses -/
theorem single_atom_count : (table.filter domB).length = 67 := by
  rw [← dom_count.1, domSymbols, List.length_map]

end Chem.Inst
