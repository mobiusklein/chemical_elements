import ChemProofs.Props.C09Strict
import ChemProofs.Inst.C03
/-
C09 — strict increase of the centre masses on an explicit prefix, at the regenerated table.

For every `domB` element of the compiled table (gap-free ladder starting at the most abundant isotope) each
further neutron adds between `dlo = 0.997` and `dhi = 1.0063` mass units (kernel evaluation over the whole
table).  By `centre_strict_prefix` the centre masses of ANY composition over those elements increase
strictly from variant `j` to variant `j + 1` for every `j` with `j * (dhi - dlo) < dlo`, i.e. for `j ≤ 107` —
whatever the size of the composition.
-/
namespace Chem.Inst
open Chem Chem.Gen

def tDlo : Rat := 997 / 1000
def tDhi : Rat := 10063 / 10000

/-- per-neutron mass increments of every `domB` table element lie in `[0.997, 1.0063]` -/
theorem table_incr :
    table.all (fun e => !domB e || incrOKB e (one : Rat) ((e.mostMass : Rat) / (one : Rat)) tDlo tDhi) = true := by
  decide +kernel

theorem table_incrOK (e : Elem) (he : e ∈ table) (hd : domB e = true) :
    IncrOK e (one : Rat) ((e.mostMass : Rat) / (one : Rat)) tDlo tDhi := by
  have h := List.all_eq_true.1 table_incr e he
  rw [hd] at h
  exact incrOK_of_B e _ _ _ _ (by simpa using h)

theorem table_gap (j : Nat) (hj : j ≤ 107) : (j : Rat) * (tDhi - tDlo) < tDlo :=
  -- monotone in `j`, and at `j = 107` it is 0.9951 < 0.997
  lt_of_le_of_lt (mul_le_mul_of_nonneg_right (Nat.cast_le.2 hj) (by decide +kernel)) (by decide +kernel)

/-- **C09 at the compiled table**: for any composition over `domB` table elements, the exact centre masses of
    two consecutive variants `j`, `j + 1 ≤ 108` that both have non-zero probability are strictly increasing -/
theorem table_centre_strict (c : List (Elem × Nat)) (hT : ∀ x ∈ c, x.1 ∈ table) (h : ∀ x ∈ c, domB x.1 = true)
    (deg j : Nat) (hj : j + 1 ≤ deg) (hj' : j ≤ 107)
    (hp : exProb c (one : Rat) deg j ≠ 0) (hp' : exProb c (one : Rat) deg (j + 1) ≠ 0) :
    exCentre c (one : Rat) deg j < exCentre c (one : Rat) deg (j + 1) :=
  centre_strict_prefix c (by norm_num [one]) (fun x hx i hi => le_of_lt ((domB_facts x.1 (h x hx)).1 i hi))
    (fun e => (e.mostMass : Rat) / (one : Rat)) tDlo tDhi
    (fun x hx => table_incrOK x.1 (hT x hx) (h x hx)) deg j hj hp hp' (table_gap j hj')

end Chem.Inst
