import Mathlib.Tactic.FieldSimp
import Mathlib.Tactic.Ring
import Mathlib.Tactic.Linarith
import Mathlib.Algebra.Order.Field.Rat
import Mathlib.Algebra.Order.BigOperators.Group.List
import Mathlib.Algebra.BigOperators.Ring.List
import ChemProofs.Model.Peaks
import ChemProofs.Model.Convolution
import ChemProofs.Spec.PeaksSpec
/-
What C10–C15 share about `Model/Peaks.lean`: sums of intensities, the charge conversion and the relabelling of
m/z values, what `normalize` and `ignoreBelow` do (in particular that normalisation does not see a common factor
and that neither reads an m/z), and the truncation loop: it stops at `Spec.prefixReaching` (`stopLoop_prefix`), a prefix
that is non-empty when the list is (`prefixReaching_*`).
-/
namespace Chem

theorem sum_map_div (l : List Rat) (c : Rat) : (l.map (· / c)).sum = l.sum / c := by
  simp only [div_eq_mul_inv, List.sum_map_mul_right, List.map_id']

theorem sum_div_self (l : List Rat) (hs : l.sum ≠ 0) : (l.map (· / l.sum)).sum = 1 := by
  rw [sum_map_div]
  exact div_self hs

theorem total_nil : total [] = 0 := rfl
theorem total_cons (q : Peak) (l : List Peak) : total (q :: l) = q.int + total l := by
  simp [total, intensities]
theorem total_append (a b : List Peak) : total (a ++ b) = total a + total b := by
  simp [total, intensities, List.sum_append]

theorem total_scale (l : List Peak) (f : Rat) :
    total (l.map (fun q => { q with int := q.int * f })) = total l * f := by
  simp only [total, intensities, List.map_map, Function.comp_def, List.sum_map_mul_right]

theorem total_map_int (g : Peak → Peak) (hg : ∀ p, (g p).int = p.int) (l : List Peak) :
    total (l.map g) = total l := by
  simp [total, intensities, List.map_map, Function.comp_def, hg]

theorem total_pos {l : List Peak} (hne : l ≠ []) (h : ∀ q ∈ l, 0 < q.int) : 0 < total l :=
  List.sum_pos _ (List.forall_mem_map.mpr h) (by simpa [intensities] using hne)

theorem total_filter_split (l : List Peak) (P : Peak → Bool) :
    total (l.filter P) + total (l.filter (fun q => !P q)) = total l := by
  rw [← total_append]
  exact ((List.filter_append_perm P l).map _).sum_eq

theorem natAbs_cast_pos (z : Int) (hz : z ≠ 0) : (0 : Rat) < ((z.natAbs : Nat) : Rat) :=
  Nat.cast_pos.mpr (Int.natAbs_pos.2 hz)

theorem chargedMz_lt_iff (z : Int) (c : Rat) {m m' : Rat} : chargedMz m z c < chargedMz m' z c ↔ m < m' := by
  unfold chargedMz
  split
  · exact Iff.rfl
  · rename_i hz
    rw [div_lt_div_iff_of_pos_right (natAbs_cast_pos z hz), add_lt_add_iff_right]

theorem chargedMz_le_iff (z : Int) (c : Rat) {m m' : Rat} : chargedMz m z c ≤ chargedMz m' z c ↔ m ≤ m' := by
  rw [← not_lt, ← not_lt, chargedMz_lt_iff]

theorem chargedMz_inj (z : Int) (c : Rat) {m m' : Rat} : chargedMz m z c = chargedMz m' z c ↔ m = m' := by
  rw [le_antisymm_iff, le_antisymm_iff, chargedMz_le_iff, chargedMz_le_iff]

/-- the guarded conversion of the generators: charge 0 returns the neutral mass itself … -/
theorem chargedMz_zero (m c : Rat) : chargedMz m 0 c = m := by simp [chargedMz]

/-- … and a non-zero charge gives `(m + z·carrier)/|z|`, i.e. `mass_charge_ratio` -/
theorem chargedMz_ne (m c : Rat) (z : Int) (hz : z ≠ 0) :
    chargedMz m z c = (m + (z : Rat) * c) / ((z.natAbs : Nat) : Rat) ∧ mzOf m z c = some (chargedMz m z c) := by
  rw [chargedMz, mzOf, if_neg hz, if_neg hz]
  exact ⟨rfl, rfl⟩

/-- after conversion consecutive rungs of the ladder `m + i·shift` are `shift / |z|` apart (`z ≠ 0`); with
    `poisson_mz` this is the spacing of the Poisson pattern -/
theorem chargedMz_spacing (m ns pr : Rat) (z : Int) (hz : z ≠ 0) (i : Nat) :
    chargedMz (m + ((i + 1 : Nat) : Rat) * ns) z pr - chargedMz (m + (i : Rat) * ns) z pr =
      ns / ((z.natAbs : Nat) : Rat) := by
  rw [(chargedMz_ne _ pr z hz).1, (chargedMz_ne _ pr z hz).1, ← sub_div, Nat.cast_succ]
  congr 1
  ring

theorem normalize_some (p : Pattern) (ht : total p.peaks ≠ 0) :
    p.normalize = some (p.scaleBy (1 / total p.peaks)) := by
  have hne : p.peaks ≠ [] := fun h => ht (h ▸ total_nil)
  unfold Pattern.normalize
  simp [List.isEmpty_eq_false_iff.2 hne, ht]

theorem normalize_eq_div {p : Pattern} (ht : total p.peaks ≠ 0) :
    p.normalize = some { p with peaks := p.peaks.map fun q => { q with int := q.int / total p.peaks } } := by
  rw [normalize_some p ht]
  simp only [Pattern.scaleBy, mul_one_div]

theorem normalize_scaleBy (p : Pattern) {f : Rat} (hf : f ≠ 0) : (p.scaleBy f).normalize = p.normalize := by
  by_cases hne : p.peaks = []
  · obtain ⟨peaks, origin⟩ := p
    subst hne
    rfl
  · have hne' : (p.scaleBy f).peaks ≠ [] := by simpa [Pattern.scaleBy] using hne
    have ht : total (p.scaleBy f).peaks = total p.peaks * f := total_scale p.peaks f
    by_cases h0 : total p.peaks = 0
    · simp [Pattern.normalize, hne, hne', ht, h0]
    · rw [normalize_eq_div (by rw [ht]; exact mul_ne_zero h0 hf), normalize_eq_div h0, ht]
      simp only [Pattern.scaleBy, List.map_map, Function.comp_def]
      congr 3
      funext q
      congr 1
      exact mul_div_mul_right _ _ hf

theorem filter_scale (l : List Peak) (c t : Rat) (hc : 0 < c) :
    (l.map (fun q => ({ q with int := q.int * (1 / c) } : Peak))).filter (fun q => decide (t ≤ q.int)) =
    (l.filter (fun q => decide (t * c ≤ q.int))).map (fun q => ({ q with int := q.int * (1 / c) } : Peak)) := by
  rw [List.filter_map]
  refine congrArg _ (List.filter_congr fun x _ => ?_)
  simp only [Function.comp_def, decide_eq_decide]
  rw [mul_one_div, le_div_iff₀ hc]

theorem ignoreBelow_scaleBy (p : Pattern) {c : Rat} (hc : 0 < c) (t : Rat) :
    (p.scaleBy (1 / c)).ignoreBelow t = p.ignoreBelow (t * c) := by
  unfold Pattern.ignoreBelow
  simp only [Pattern.scaleBy]
  rw [filter_scale _ _ _ hc]
  exact normalize_scaleBy ⟨p.peaks.filter fun q => decide (t * c ≤ q.int), p.origin⟩ (one_div_ne_zero hc.ne')

def mapMz (f : Rat → Rat) (p : Peak) : Peak := { p with mz := f p.mz }

/-- the rescaling applied by a generator called with charge `z` and carrier mass `c` -/
def rescale (z : Int) (c : Rat) : Peak → Peak := mapMz (fun m => chargedMz m z c)

theorem rescale_eq (z : Int) (c : Rat) : rescale z c = fun p => { p with mz := chargedMz p.mz z c } := rfl

@[simp]
theorem mapMz_int (f : Rat → Rat) (p : Peak) : (mapMz f p).int = p.int := rfl
@[simp]
theorem mapMz_mz (f : Rat → Rat) (p : Peak) : (mapMz f p).mz = f p.mz := rfl
@[simp]
theorem rescale_int (z : Int) (c : Rat) (p : Peak) : (rescale z c p).int = p.int := rfl
@[simp]
theorem rescale_mz (z : Int) (c : Rat) (p : Peak) : (rescale z c p).mz = chargedMz p.mz z c := rfl

theorem rescale_zero (c : Rat) : rescale 0 c = id := by
  funext p
  simp [rescale, mapMz, chargedMz_zero]

theorem normalize_mapMz (f : Rat → Rat) (P Q : Pattern) (h : Q.peaks = P.peaks.map (mapMz f)) :
    Q.normalize.map (·.peaks) = P.normalize.map (fun q => q.peaks.map (mapMz f)) := by
  have ht : total Q.peaks = total P.peaks := by
    rw [h]
    exact total_map_int (mapMz f) (fun _ => rfl) _
  have he : Q.peaks.isEmpty = P.peaks.isEmpty := by
    rw [h, List.isEmpty_map]
  unfold Pattern.normalize
  rw [he, ht]
  -- the map goes through both `if`s (`split` is dear here); the branches agree
  simp only [apply_ite (Option.map _), Option.map_some, Option.map_none, Pattern.scaleBy, h, List.map_map]
  rfl

theorem ignoreBelow_mapMz (f : Rat → Rat) (t : Rat) (P Q : Pattern) (h : Q.peaks = P.peaks.map (mapMz f)) :
    (Q.ignoreBelow t).map (·.peaks) = (P.ignoreBelow t).map (fun q => q.peaks.map (mapMz f)) := by
  unfold Pattern.ignoreBelow
  apply normalize_mapMz
  simp only [h, List.filter_map]
  congr 1

/-- loop invariant of `truncate_after`: `pre` are the peaks already consumed, `acc` their total, and no prefix
    within `pre` reaches `t`.  The loop then returns the total of the prefix it stops at, and stops either at the
    first index whose prefix reaches `t` or, if none does, at the last index. -/
theorem stopLoop_char (t : Rat) (l pre : List Peak) (acc : Rat) (hacc : acc = total pre)
    (hpre : ∀ j, j < pre.length → ¬ t ≤ total ((pre ++ l).take (j + 1))) :
    (Pattern.stopLoop t l acc pre.length).2 = total ((pre ++ l).take ((Pattern.stopLoop t l acc pre.length).1 + 1)) ∧
    ((t ≤ total ((pre ++ l).take ((Pattern.stopLoop t l acc pre.length).1 + 1)) ∧
        (Pattern.stopLoop t l acc pre.length).1 < (pre ++ l).length ∧
        ∀ j, j < (Pattern.stopLoop t l acc pre.length).1 → ¬ t ≤ total ((pre ++ l).take (j + 1))) ∨
     ((Pattern.stopLoop t l acc pre.length).1 = (pre ++ l).length - 1 ∧
        ∀ j, j < (pre ++ l).length → ¬ t ≤ total ((pre ++ l).take (j + 1)))) := by
  induction l generalizing pre acc with
  | nil =>
    rw [List.append_nil] at hpre ⊢
    rw [Pattern.stopLoop]
    exact ⟨hacc.trans (congrArg total (List.take_of_length_le (by omega)).symm), Or.inr ⟨rfl, hpre⟩⟩
  | cons q rest ih =>
    rw [List.append_cons] at hpre ⊢
    have hlen : (pre ++ [q]).length = pre.length + 1 := List.length_append
    have hq : acc + q.int = total (pre ++ [q]) := by rw [total_append, ← hacc, total_cons, total_nil, add_zero]
    have hacc' : acc + q.int = total ((pre ++ [q] ++ rest).take (pre.length + 1)) := by rwa [List.take_left' hlen]
    rw [Pattern.stopLoop]
    by_cases hge : t ≤ acc + q.int
    · rw [if_pos hge]
      exact ⟨hacc', Or.inl ⟨hacc' ▸ hge, by rw [List.length_append, hlen]; omega, hpre⟩⟩
    · rw [if_neg hge, ← hlen]
      refine ih (pre ++ [q]) (acc + q.int) hq fun j hj => ?_
      rcases Nat.lt_succ_iff_lt_or_eq.mp (hlen ▸ hj) with hj | rfl
      · exact hpre j hj
      · exact hacc' ▸ hge

theorem stopLoop_prefix (t : Rat) (l : List Peak) :
    l.take ((Pattern.stopLoop t l 0 0).1 + 1) = Spec.prefixReaching t l ∧
    (Pattern.stopLoop t l 0 0).2 = total (Spec.prefixReaching t l) := by
  have h := stopLoop_char t l [] 0 total_nil.symm nofun
  simp only [List.nil_append, List.length_nil] at h
  obtain ⟨h2, h3⟩ := h
  have key : l.take ((Pattern.stopLoop t l 0 0).1 + 1) = Spec.prefixReaching t l := by
    unfold Spec.prefixReaching
    rcases h3 with ⟨hge, hlt, hmin⟩ | ⟨hk, hall⟩
    · have : (List.range l.length).find? (fun k => decide (t ≤ total (l.take (k + 1)))) = some (Pattern.stopLoop t l 0 0).1 := by
        rw [List.find?_range_eq_some]
        exact ⟨by simpa using hge, by simpa using hlt, fun j hj => by simpa using hmin j hj⟩
      simp only [this]
    · have : (List.range l.length).find? (fun k => decide (t ≤ total (l.take (k + 1)))) = none := by
        rw [List.find?_range_eq_none]
        exact fun i hi => by simpa using hall i hi
      simp only [this, hk]
      exact List.take_of_length_le (by omega)
  exact ⟨key, by rw [h2, key]⟩

theorem prefixReaching_eq_take (t : Rat) (l : List Peak) : ∃ k, Spec.prefixReaching t l = l.take (k + 1) := by
  unfold Spec.prefixReaching
  split
  · exact ⟨_, rfl⟩
  · exact ⟨l.length, (List.take_of_length_le (Nat.le_succ _)).symm⟩

theorem prefixReaching_subset (t : Rat) (l : List Peak) : ∀ x ∈ Spec.prefixReaching t l, x ∈ l := by
  obtain ⟨k, hk⟩ := prefixReaching_eq_take t l
  rw [hk]
  exact fun x => List.mem_of_mem_take

theorem prefixReaching_ne_nil (t : Rat) {l : List Peak} (h : l ≠ []) : Spec.prefixReaching t l ≠ [] := by
  obtain ⟨k, hk⟩ := prefixReaching_eq_take t l
  rw [hk]
  cases l with
  | nil => exact absurd rfl h
  | cons x xs => simp

/-- `List.mergeSort` is defined by well-founded recursion and does not reduce in the kernel: a sort of a concrete
    sorted list is evaluated through this lemma -/
theorem sortByMass_of_sorted {l : Dist} (h : l.Pairwise (fun a b => a.1 ≤ b.1)) : sortByMass l = l :=
  List.mergeSort_of_pairwise (h.imp fun hab => by simpa using hab)

end Chem
