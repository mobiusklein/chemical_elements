import ChemProofs.Model.ElemSpec
/-
Decimal rendering and the integer parsers: `natDigits n` is a non-empty run of ASCII digits whose value is
`n`; on a text without a sign `parseI32` / `parseU16` are `digitsVal` and a range check, hence they read
`natDigits n` back (within range), and what they accept of `cc.numeric` characters is a run of ASCII digits.
Core Lean only.
-/
namespace Chem

theorem natDigits_ne_nil (n : Nat) : natDigits n ≠ [] := by
  unfold natDigits
  intro h
  exact Nat.toDigits_ne_nil (List.map_eq_nil_iff.1 h)

theorem isAsciiDigit_of_isDigit (c : Char) (h : c.isDigit = true) : isAsciiDigit c.toNat = true := by
  simp only [Char.isDigit, Bool.and_eq_true, decide_eq_true_eq, ge_iff_le, UInt32.le_iff_toNat_le] at h
  simp only [isAsciiDigit, Bool.and_eq_true, decide_eq_true_eq]
  exact h

theorem natDigits_all_digit (n : Nat) : ∀ c ∈ natDigits n, isAsciiDigit c = true := by
  intro c hc
  unfold natDigits at hc
  obtain ⟨ch, hch, rfl⟩ := List.mem_map.1 hc
  exact isAsciiDigit_of_isDigit ch (Nat.isDigit_of_mem_toDigits (by decide) (by decide) hch)

theorem foldl_map_toNat (l : List Char) (init : Nat) :
    (l.map Char.toNat).foldl (fun n d => 10 * n + (d - 48)) init = Nat.ofDigitChars 10 l init := by
  induction l generalizing init with
  | nil => simp
  | cons c cs ih =>
    simp only [List.map_cons, List.foldl_cons, Nat.ofDigitChars_cons]
    rw [ih]
    rfl

theorem digitsVal_natDigits (n : Nat) : digitsVal (natDigits n) = some n := by
  have hne := natDigits_ne_nil n
  have hall : (natDigits n).all isAsciiDigit = true := List.all_eq_true.2 (natDigits_all_digit n)
  have hval : (natDigits n).foldl (fun n d => 10 * n + (d - 48)) 0 = n := by
    unfold natDigits
    rw [foldl_map_toNat]
    exact Nat.ofDigitChars_ten_toDigits
  unfold digitsVal
  split
  · exact absurd (by assumption) hne
  · rw [if_pos hall, hval]

theorem toDigits_head_ne_zero (n : Nat) (hn : 0 < n) : (Nat.toDigits 10 n).head? ≠ some '0' := by
  induction n using Nat.strongRecOn with
  | _ n ih =>
    rw [Nat.toDigits_eq_if (by decide)]
    split
    · exact fun h => Nat.ne_of_gt hn (Nat.digitChar_eq_zero.1 (Option.some.inj h))
    · have := ih (n / 10) (Nat.div_lt_self hn (by decide)) (Nat.div_pos (by omega) (by decide))
      cases h : Nat.toDigits 10 (n / 10) with
      | nil => exact absurd h Nat.toDigits_ne_nil
      | cons c cs => rw [h] at this; exact this

theorem natDigits_head_ne_zero (n : Nat) (hn : 0 < n) : (natDigits n).head? ≠ some 48 := by
  unfold natDigits
  rw [List.head?_map]
  intro h
  obtain ⟨c, hc, hc48⟩ := Option.map_eq_some_iff.1 h
  exact toDigits_head_ne_zero n hn (hc.trans (congrArg some (Char.toNat_inj.1 hc48)))

theorem parseI32_unsigned {ds : List Nat} (h43 : ds.head? ≠ some 43) (h45 : ds.head? ≠ some 45) :
    parseI32 ds = (digitsVal ds).bind fun v => if v ≤ 2147483647 then some (v : Int) else none := by
  unfold parseI32
  split
  · exact absurd rfl h45
  · exact absurd rfl h43
  · cases digitsVal ds <;> rfl

theorem parseU16_unsigned {ds : List Nat} (h43 : ds.head? ≠ some 43) :
    parseU16 ds = (digitsVal ds).bind fun v => if v ≤ 65535 then some v else none := by
  unfold parseU16
  dsimp only
  split <;> rename_i heq <;> split at heq
  · exact absurd rfl h43
  · rw [heq]; rfl
  · exact absurd rfl h43
  · rw [heq]; rfl

theorem digitsVal_some_all {ds : List Nat} {v : Nat} (h : digitsVal ds = some v) :
    ds ≠ [] ∧ ds.all isAsciiDigit = true := by
  unfold digitsVal at h
  split at h
  · cases h
  · rename_i hne
    split at h
    · rename_i hall
      exact ⟨fun e => hne e, hall⟩
    · cases h

/-- a text whose characters all satisfy `p` does not begin with a character that does not -/
theorem head?_ne_of_all {p : Nat → Bool} {ds : List Nat} (h : ∀ c ∈ ds, p c = true) {x : Nat} (hx : p x = false) :
    ds.head? ≠ some x := fun e => by
  rw [h x (List.mem_of_mem_head? e)] at hx
  cases hx

theorem head_of_digitsVal {ds : List Nat} {v : Nat} (h : digitsVal ds = some v) :
    ds.head? ≠ some 43 ∧ ds.head? ≠ some 45 :=
  have hall := List.all_eq_true.1 (digitsVal_some_all h).2
  ⟨head?_ne_of_all hall (by decide), head?_ne_of_all hall (by decide)⟩

theorem parseI32_of_digitsVal {ds : List Nat} {v : Nat} (h : digitsVal ds = some v) :
    parseI32 ds = if v ≤ 2147483647 then some (v : Int) else none := by
  rw [parseI32_unsigned (head_of_digitsVal h).1 (head_of_digitsVal h).2, h, Option.bind_some]

theorem parseU16_of_digitsVal {ds : List Nat} {v : Nat} (h : digitsVal ds = some v) :
    parseU16 ds = if v ≤ 65535 then some v else none := by
  rw [parseU16_unsigned (head_of_digitsVal h).1, h, Option.bind_some]

theorem parseI32_natDigits (n : Nat) (h : n ≤ 2147483647) : parseI32 (natDigits n) = some (n : Int) := by
  rw [parseI32_of_digitsVal (digitsVal_natDigits n), if_pos h]

theorem parseU16_natDigits (n : Nat) (h : n ≤ 65535) : parseU16 (natDigits n) = some n := by
  rw [parseU16_of_digitsVal (digitsVal_natDigits n), if_pos h]

theorem head_of_numeric {cc : CharClass} (hcc : cc.AsciiOK) {ds : List Nat}
    (hnum : ∀ c ∈ ds, cc.numeric c = true) : ds.head? ≠ some 43 ∧ ds.head? ≠ some 45 :=
  ⟨head?_ne_of_all hnum ((hcc 43 (by omega)).2.1.trans rfl), head?_ne_of_all hnum ((hcc 45 (by omega)).2.1.trans rfl)⟩

theorem digitsVal_of_bind {α} {ds : List Nat} {f : Nat → Option α} {x : α} (h : (digitsVal ds).bind f = some x) :
    ds ≠ [] ∧ ds.all isAsciiDigit = true := by
  obtain ⟨v, hd, -⟩ := Option.bind_eq_some_iff.1 h
  exact digitsVal_some_all hd

/-- what `parse::<i32>()` / `parse::<u16>()` accept of `cc.numeric` characters is a non-empty run of ASCII digits -/
theorem parseI32_numeric {cc : CharClass} (hcc : cc.AsciiOK) {ds : List Nat} {n : Int}
    (hnum : ∀ c ∈ ds, cc.numeric c = true) (h : parseI32 ds = some n) :
    ds ≠ [] ∧ ds.all isAsciiDigit = true :=
  digitsVal_of_bind (parseI32_unsigned (head_of_numeric hcc hnum).1 (head_of_numeric hcc hnum).2 ▸ h)

theorem parseU16_numeric {cc : CharClass} (hcc : cc.AsciiOK) {ds : List Nat} {v : Nat}
    (hnum : ∀ c ∈ ds, cc.numeric c = true) (h : parseU16 ds = some v) :
    ds ≠ [] ∧ ds.all isAsciiDigit = true :=
  digitsVal_of_bind (parseU16_unsigned (head_of_numeric hcc hnum).1 ▸ h)

end Chem
