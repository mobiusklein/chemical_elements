import ChemProofs.Lemmas.Ents
import ChemProofs.Model.CompMachine
/-
The composition store one level above `Lemmas/Ents.lean`: what each mutator of `Comp` does to `ents` and `form` (the
cache is the subject of `Props/C02.lean`), what a string write resolves to, and the shape of the machine `stepM` — whatever
a step leaves in a register is built from the old registers by those mutators (`step_built`), so a property kept by each
mutator is an invariant.
-/
namespace Chem

/-! The model has several names for one function (the Rust methods differ, their effect does not).  The `ents` and `form`
of a mutator hold by `rfl`, except for `addFrom` (a fold) and `fmass` (a match on the cache). -/
namespace Comp

theorem idxSet_eq (c : Comp) (k : Key) (v : Int) : c.idxSet k v = c.set k v := rfl
theorem idxAdd_eq (c : Comp) (k : Key) (v : Int) : c.idxAdd k v = c.inc k v := rfl
theorem mulBy_eq (c : Comp) (n : Int) : c.mulBy n = c.iterMut (n * ·) := rfl
theorem mulNew_eq (c : Comp) (n : Int) : c.mulNew n = c.iterMut (n * ·) := rfl
theorem addNew_eq (a b : Comp) (s : Int) : a.addNew b s = a.addFrom b.ents s := rfl

theorem addFrom_ents (a : Comp) (l : Ents) (s : Int) : (a.addFrom l s).ents = a.ents.addFrom l s :=
  (List.foldl_hom Comp.ents fun _ _ => rfl).symm

theorem addFrom_form (a : Comp) (l : Ents) (s : Int) : (a.addFrom l s).form = a.form :=
  List.foldlRecOn (motive := fun c : Comp => c.form = a.form) l _ rfl fun _ h _ _ => h

theorem fmass_ents (m : Key → Int) (c : Comp) : (c.fmass m).1.ents = c.ents := by
  unfold fmass
  split <;> rfl

theorem fmass_form (m : Key → Int) (c : Comp) : (c.fmass m).1.form = c.form := by
  unfold fmass
  split <;> rfl

/-- each of the three string writes sets one entry: the one the string parses to or, for `inc_str` on a map, the plain
    entry that is there -/
theorem strWrite_ok {T : Table} {c c' : Comp} {s : Sym} {v : Int}
    (h : c.strIdxSet T s v = .ok c' ∨ c.strIdxAdd T s v = .ok c' ∨ c.incStr T s v = .ok c') :
    ∃ k w, (parseSpec T s = .ok k ∨ k = (s, 0) ∧ c.ents.has (s, 0) = true) ∧ c' = c.set k w := by
  -- all three end in this match on what the string parses to
  have parsed : ∀ {w : Key → Int}, (match parseSpec T s with | .ok k => Res.ok (c.set k (w k)) | _ => .panic) = .ok c' →
      ∃ k w, (parseSpec T s = .ok k ∨ k = (s, 0) ∧ c.ents.has (s, 0) = true) ∧ c' = c.set k w := fun {w} h => by
    split at h
    · rename_i k hk
      exact ⟨k, w k, .inl hk, (Res.ok.inj h).symm⟩
    · cases h
  rcases h with h | h | h
  · exact parsed (w := fun _ => v) h
  · exact parsed (w := fun k => c.ents.get k + v) h
  · unfold incStr at h
    split at h
    · split at h
      · exact ⟨(s, 0), _, .inr ⟨rfl, ‹_›⟩, (Res.ok.inj h).symm⟩
      · exact parsed (w := fun k => c.ents.get k + v) h
    · exact parsed (w := fun k => c.ents.get k + v) h

/-- `inc_str` differs from `c[s] += v` only on a map holding a plain entry `(s, 0)` for a string that does not parse to it -/
theorem incStr_eq_strIdxAdd (T : Table) (c : Comp) (s : Sym) (v : Int)
    (h : c.ents.has (s, 0) = true → parseSpec T s = .ok (s, 0)) : c.incStr T s v = c.strIdxAdd T s v := by
  unfold incStr
  cases c.form.isMap
  · rfl
  · cases hhas : c.ents.has (s, 0)
    · rfl
    · rw [strIdxAdd, h hhas]
      rfl

end Comp

theorem convChain_cases (c : Comp) (f : Form) :
    convChain c f = c ∨ convChain c f = c.convert f ∨ convChain c f = (c.convert .evec).convert .emap := by
  unfold convChain
  split <;> simp

theorem convChain_ents (c : Comp) (f : Form) (h : c.ents.NoDupKeys) : (convChain c f).ents = c.ents := by
  rcases convChain_cases c f with e | e | e <;> rw [e]
  · exact Ents.ofSets_nodup _ h
  · show Ents.ofSets (Ents.ofSets c.ents) = c.ents
    rw [Ents.ofSets_nodup _ h, Ents.ofSets_nodup _ h]

theorem convChain_form (c : Comp) (f : Form) : (convChain c f).form = f := by
  unfold convChain
  split <;> first | rfl | assumption

/-- the constructor arm of `stepM`: the detour through the list-holding enum on the way to `emap` changes nothing -/
theorem fromkv_eq (f : Form) (ps : Ents) :
    (if f == Form.emap then (Comp.ofPairs (if f == Form.emap then Form.evec else f) ps).convert Form.emap
      else Comp.ofPairs (if f == Form.emap then Form.evec else f) ps) = Comp.ofPairs f ps := by
  cases f <;> simp [Comp.ofPairs, Comp.convert, Ents.ofSets_nodup _ (Ents.nodup_ofPairs ps)]

/-- a register out of range reads as the empty composition -/
theorem Regs.at_forall {P : Comp → Prop} {rs : Regs} (h : ∀ c ∈ rs, P c) (h0 : P (Comp.empty .vec)) (i : Nat) :
    P (rs.at i) := by
  unfold Regs.at
  rw [List.getD_eq_getElem?_getD]
  cases hi : rs[i]? with
  | none => exact h0
  | some c => exact h c (List.mem_of_getElem? hi)

theorem Regs.at_map {β : Type} (f : Comp → β) (rs : Regs) (i : Nat) :
    (rs.map f).getD i (f (Comp.empty .vec)) = f (rs.at i) := by
  rw [Regs.at, List.getD_eq_getElem?_getD, List.getD_eq_getElem?_getD, List.getElem?_map, Option.getD_map]

theorem Regs.at_put_ne {rs : Regs} {d r : Nat} (c : Comp) (h : r ≠ d) : (rs.put d c).at r = rs.at r := by
  unfold Regs.put Regs.at
  rw [List.getD_eq_getElem?_getD, List.getD_eq_getElem?_getD, List.getElem?_set_ne (Ne.symm h)]

theorem Regs.at_put_self {rs : Regs} {i : Nat} (h : i < rs.length) (c : Comp) : (rs.put i c).at i = c := by
  rw [Regs.at, Regs.put, List.getD_eq_getElem?_getD, List.getElem?_set_self h]
  rfl

/-- the keys an operation may introduce: its typed keys and whatever its string parses to -/
def Op.Writes (T : Table) : Op → Key → Prop
  | .set _ k _ | .inc _ k _ | .iset _ k _ | .iadd _ k _ => (· = k)
  | .sset _ s _ | .sadd _ s _ | .incs _ s _ => fun k => parseSpec T s = .ok k
  | .fromkv _ _ _ ps => (· ∈ ps.keys)
  | _ => fun _ => False

/-- what a step can leave in a register: a composition built from the old registers by the mutators of the store,
    introducing no key outside `K` -/
inductive Comp.Built (m : Key → Int) (K : Key → Prop) (rs : Regs) : Comp → Prop
  | reg {c : Comp} : c ∈ rs → Built m K rs c
  | empty (f : Form) : Built m K rs (Comp.empty f)
  | set {c : Comp} (k : Key) (v : Int) : Built m K rs c → K k ∨ k ∈ c.ents.keys → Built m K rs (c.set k v)
  | iterMut {c : Comp} (f : Int → Int) : Built m K rs c → Built m K rs (c.iterMut f)
  | addFrom {a b : Comp} (s : Int) : Built m K rs a → Built m K rs b → Built m K rs (a.addFrom b.ents s)
  | convert {c : Comp} (f : Form) : Built m K rs c → Built m K rs (c.convert f)
  | ofPairs (f : Form) (ps : Ents) : (∀ k ∈ ps.keys, K k) → Built m K rs (Comp.ofPairs f ps)
  -- `get_str_mut` on a map without the entry hands out nothing, yet has cleared the cache
  | touch {c : Comp} : Built m K rs c → Built m K rs { c with cache := none }
  | fmass {c : Comp} : Built m K rs c → Built m K rs (c.fmass m).1

theorem Comp.Built.at {m : Key → Int} {K : Key → Prop} {rs : Regs} (i : Nat) : Built m K rs (rs.at i) :=
  Regs.at_forall (fun _ => .reg) (.empty .vec) i

theorem Comp.Built.convChain {m : Key → Int} {K : Key → Prop} {rs : Regs} {c : Comp} (f : Form)
    (h : Built m K rs c) : Built m K rs (convChain c f) := by
  rcases convChain_cases c f with e | e | e <;> rw [e]
  · exact h
  · exact h.convert f
  · exact (h.convert _).convert _

theorem step_built (cc : CharClass) (T : Table) (m : Key → Int) (rs : Regs) (op : Op) (K : Key → Prop)
    (hK : ∀ k, op.Writes T k → K k) :
    ∀ c ∈ (stepM cc T m rs op).regs, Comp.Built m K rs c := by
  have keep : ∀ c ∈ rs, Comp.Built m K rs c := fun _ => .reg
  have put : ∀ {d : Nat} {c' : Comp}, Comp.Built m K rs c' → ∀ c ∈ rs.put d c', Comp.Built m K rs c :=
    fun {d c'} h c hc => (List.mem_or_eq_of_mem_set hc).elim .reg fun (e : c = c') => e ▸ h
  have strWrite : ∀ (r : Nat) (s : Sym) (v : Int) (c' : Comp), (∀ k, parseSpec T s = .ok k → K k) →
      (rs.at r).strIdxSet T s v = .ok c' ∨ (rs.at r).strIdxAdd T s v = .ok c' ∨ (rs.at r).incStr T s v = .ok c' →
      ∀ c ∈ rs.put r c', Comp.Built m K rs c := fun r s v c' hK h => by
    obtain ⟨k, w, hk, rfl⟩ := Comp.strWrite_ok h
    exact put (.set k w (.at r) (hk.imp (hK k) fun ⟨e, hhas⟩ => e ▸ Ents.has_iff_mem_keys.1 hhas))
  cases op <;> dsimp only [stepM]
  case new r f => exact put (.empty f)
  case set r k v | inc r k v | iset r k v | iadd r k v => exact put (.set k _ (.at r) (.inl (hK k rfl)))
  case sset r s v =>
    split
    · exact strWrite r s v _ hK (.inl ‹_›)
    · exact keep
  case sadd r s v =>
    split
    · exact strWrite r s v _ hK (.inr (.inl ‹_›))
    · exact keep
  case incs r s v =>
    split
    · exact strWrite r s v _ hK (.inr (.inr ‹_›))
    · exact keep
  case gsm r s v =>
    split
    · rename_i hhas
      exact put (.set _ v (.at r) (.inr (Ents.has_iff_mem_keys.1 hhas)))
    · split
      · exact put (.touch (.at r))
      · exact keep
  case fmass r => exact put (.fmass (.at r))
  case mul d a n | neg d a | muli a n | itm a f => exact put (.iterMut _ (.at a))
  case add d a b sign | addi a b sign => exact put (.addFrom sign (.at a) (.at b))
  case clone d a => exact put (.at a)
  case conv d a f => exact put (.convChain f (.at a))
  case fromkv d f v ps => exact fromkv_eq f ps ▸ put (.ofPairs f ps hK)
  all_goals exact keep

/-- the registers after a history (what the steps read is dropped: `traceM`, `Props/C06.lean`) -/
def runM (cc : CharClass) (T : Table) (m : Key → Int) (rs : Regs) (ops : List Op) : Regs :=
  ops.foldl (fun rs op => (stepM cc T m rs op).regs) rs

end Chem
