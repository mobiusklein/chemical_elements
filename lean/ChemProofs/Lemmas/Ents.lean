import ChemProofs.Model.Comp
import ChemProofs.Lemmas.Table
/-
Lemmas about the entry-list functions of `Model/Comp.lean` (core Lean only).  An entry list is seen through `abs` (the
finite map it denotes; `get` and `has` are read off it), `keys`, `NoDupKeys` and `massOf`; `set`, `inc`, `mapCounts`,
`addFrom`, `ofPairs` are characterised view by view, as `<view>_<function>` (`nodup_<function>`: the function keeps
`NoDupKeys`); `ofSets` only on duplicate-free input, where it is the identity (`ofSets_nodup`).
-/
namespace Chem
namespace Ents

/-- the finite-map view of an entry list: first match wins, absence is `none` -/
def abs (l : Ents) (k : Key) : Option Int := (l.find? (fun e => e.1 == k)).map (·.2)

/-- the sum of all counts listed for `k` (`get` reads the first): what `addFrom` adds and `ofPairs` stores for a repeated key -/
def sumFor (l : Ents) (k : Key) : Int := ((l.filter (fun e => e.1 == k)).map (·.2)).sum

/-- the invariant of every store; under it `get` is `sumFor` and the list is its `abs` up to order (`perm_iff_same_abs`) -/
def NoDupKeys (l : Ents) : Prop := l.keys.Nodup

@[simp]
theorem abs_nil (k : Key) : abs [] k = none := rfl

theorem abs_cons (e : Key × Int) (l : Ents) (k : Key) :
    abs (e :: l) k = if e.1 = k then some e.2 else abs l k := by
  by_cases h : e.1 = k <;> simp [abs, h]

theorem get_eq_abs (l : Ents) (k : Key) : l.get k = (abs l k).getD 0 := by
  unfold get abs
  cases l.find? (fun e => e.1 == k) <;> rfl

@[simp]
theorem get_nil (k : Key) : get [] k = 0 := rfl

theorem get_cons (e : Key × Int) (l : Ents) (k : Key) :
    get (e :: l) k = if e.1 = k then e.2 else get l k := by
  rw [get_eq_abs, abs_cons, get_eq_abs]
  split <;> rfl

@[simp] theorem keys_nil : keys [] = [] := rfl

@[simp] theorem keys_cons (e : Key × Int) (l : Ents) : keys (e :: l) = e.1 :: keys l := rfl

theorem has_cons (e : Key × Int) (l : Ents) (k : Key) :
    has (e :: l) k = (decide (e.1 = k) || has l k) := by
  rw [has, List.any_cons, Bool.beq_eq_decide_eq, has]

theorem has_iff_mem_keys {l : Ents} {k : Key} : l.has k = true ↔ k ∈ l.keys := by
  simp only [has, keys, List.any_eq_true, beq_iff_eq, List.mem_map]

theorem has_eq_abs (l : Ents) (k : Key) : l.has k = (abs l k).isSome := by
  induction l with
  | nil => rfl
  | cons e rest ih =>
    rw [has_cons, abs_cons, ih]
    by_cases h : e.1 = k <;> simp [h]

theorem abs_eq_none_iff (l : Ents) (k : Key) : abs l k = none ↔ k ∉ l.keys := by
  rw [← has_iff_mem_keys, has_eq_abs]
  cases abs l k <;> simp

theorem mem_keys_iff (l : Ents) (k : Key) : k ∈ l.keys ↔ (abs l k).isSome = true := by
  rw [← has_iff_mem_keys, has_eq_abs]

theorem get_of_not_mem (l : Ents) (k : Key) (h : k ∉ l.keys) : l.get k = 0 := by
  rw [get_eq_abs, (abs_eq_none_iff l k).2 h]
  rfl

theorem nodup_nil : NoDupKeys [] := List.nodup_nil

theorem nodup_cons {e : Key × Int} {l : Ents} : NoDupKeys (e :: l) ↔ e.1 ∉ l.keys ∧ NoDupKeys l :=
  List.nodup_cons

@[simp] theorem sumFor_nil (k : Key) : sumFor [] k = 0 := rfl

theorem sumFor_cons (e : Key × Int) (l : Ents) (k : Key) :
    sumFor (e :: l) k = (if e.1 = k then e.2 else 0) + sumFor l k := by
  by_cases h : e.1 = k <;> simp [sumFor, h]

theorem sumFor_append (a b : Ents) (k : Key) :
    sumFor (a ++ b) k = sumFor a k + sumFor b k := by
  simp [sumFor, List.filter_append, List.map_append, List.sum_append]

theorem sumFor_filter_key (p : Key → Bool) (l : Ents) (k : Key) :
    sumFor (l.filter (fun e => p e.1)) k = if p k then sumFor l k else 0 := by
  induction l with
  | nil => simp
  | cons e r ih =>
    by_cases he : e.1 = k
    · subst he
      by_cases hp : p e.1 = true <;> simp [sumFor_cons, hp, ih]
    · by_cases hp : p e.1 = true <;> simp [sumFor_cons, hp, he, ih]

theorem sumFor_of_not_mem (l : Ents) (k : Key) (h : k ∉ l.keys) : sumFor l k = 0 := by
  induction l with
  | nil => rfl
  | cons e rest ih =>
    rw [keys_cons, List.mem_cons, not_or] at h
    rw [sumFor_cons, if_neg (Ne.symm h.1), ih h.2]
    rfl

theorem sumFor_nodup (l : Ents) (k : Key) (h : l.NoDupKeys) : sumFor l k = l.get k := by
  induction l with
  | nil => rfl
  | cons e rest ih =>
    rw [get_cons, sumFor_cons]
    split
    · rename_i hk
      rw [sumFor_of_not_mem rest k (hk ▸ (nodup_cons.1 h).1), Int.add_zero]
    · rw [Int.zero_add, ih (nodup_cons.1 h).2]

theorem NoDupKeys.nodup {l : Ents} (h : l.NoDupKeys) : l.Nodup :=
  List.Pairwise.of_map (·.1) (fun _ _ hne e => hne (congrArg _ e)) h

theorem mem_of_abs {l : Ents} {k : Key} {v : Int} (h : abs l k = some v) : (k, v) ∈ l := by
  obtain ⟨e, he, rfl⟩ := Option.map_eq_some_iff.1 h
  obtain ⟨hm, rfl⟩ := find?_key_some he
  exact hm

theorem abs_of_get_ne_zero {l : Ents} {k : Key} {v : Int} (h : l.get k = v) (hv : v ≠ 0) : abs l k = some v := by
  rw [get_eq_abs] at h
  cases ha : abs l k with
  | none =>
    rw [ha] at h
    exact absurd h.symm hv
  | some w =>
    rw [ha] at h
    exact congrArg some h

theorem mem_of_get_ne_zero (l : Ents) (k : Key) (h : l.get k ≠ 0) : (k, l.get k) ∈ l :=
  mem_of_abs (abs_of_get_ne_zero rfl h)

theorem mem_iff_abs (l : Ents) (h : l.NoDupKeys) (e : Key × Int) : e ∈ l ↔ abs l e.1 = some e.2 :=
  ⟨fun he => by rw [abs, find?_key_of_mem Prod.fst h he]; rfl, mem_of_abs⟩

theorem get_of_mem {l : Ents} (h : l.NoDupKeys) {e : Key × Int} (he : e ∈ l) : l.get e.1 = e.2 := by
  rw [get_eq_abs, (mem_iff_abs l h e).1 he]
  rfl

theorem same_abs_iff (a b : Ents) (ha : a.NoDupKeys) (hb : b.NoDupKeys) :
    (∀ k, abs a k = abs b k) ↔ ∀ e, e ∈ a ↔ e ∈ b :=
  ⟨fun h e => by rw [mem_iff_abs a ha, mem_iff_abs b hb, h],
   fun h k => Option.ext fun v => by
    rw [← mem_iff_abs a ha (k, v), ← mem_iff_abs b hb (k, v)]
    exact h (k, v)⟩

theorem NoDupKeys.perm {a b : Ents} (ha : a.NoDupKeys) (hp : a.Perm b) : b.NoDupKeys :=
  (hp.map (fun e : Key × Int => e.1)).nodup_iff.1 ha

theorem perm_iff_same_abs (a b : Ents) (ha : a.NoDupKeys) (hb : b.NoDupKeys) :
    a.Perm b ↔ ∀ k, abs a k = abs b k := by
  rw [same_abs_iff a b ha hb, List.perm_ext_iff_of_nodup ha.nodup hb.nodup]

theorem get_of_same_map {a b : Ents} (hsame : ∀ k, abs a k = abs b k) (k : Key) :
    a.get k = b.get k := by
  rw [get_eq_abs, get_eq_abs, hsame]

theorem massOf_nil (m : Key → Int) : massOf m [] = 0 := rfl

theorem massOf_cons (m : Key → Int) (e : Key × Int) (l : Ents) :
    massOf m (e :: l) = e.2 * m e.1 + massOf m l := by
  simp [massOf]

theorem massOf_append (m : Key → Int) (a b : Ents) : massOf m (a ++ b) = massOf m a + massOf m b := by
  simp [massOf, List.sum_append]

theorem set_cons (e : Key × Int) (l : Ents) (k : Key) (v : Int) :
    set (e :: l) k v = if e.1 = k then (e.1, v) :: l else e :: set l k v := by
  by_cases h : e.1 = k <;> simp [set, h]

theorem abs_set (l : Ents) (k : Key) (v : Int) (k' : Key) :
    abs (l.set k v) k' = if k' = k then some v else abs l k' := by
  induction l with
  | nil =>
    rw [set, abs_cons]
    simp [eq_comm]
  | cons e rest ih =>
    rw [set_cons]
    split
    · rename_i hk
      rw [abs_cons, abs_cons, hk]
      by_cases h : k = k' <;> simp [h, eq_comm]
    · rename_i hk
      rw [abs_cons, abs_cons, ih]
      by_cases h : e.1 = k'
      · rw [if_pos h, if_pos h, if_neg fun h' => hk (h.trans h')]
      · rw [if_neg h, if_neg h]

theorem get_set (l : Ents) (k : Key) (v : Int) (k' : Key) :
    (l.set k v).get k' = if k' = k then v else l.get k' := by
  rw [get_eq_abs, abs_set, get_eq_abs]
  split <;> rfl

theorem keys_set (l : Ents) (k : Key) (v : Int) :
    (l.set k v).keys = if l.has k then l.keys else l.keys ++ [k] := by
  induction l with
  | nil => rfl
  | cons e rest ih =>
    rw [set_cons, has_cons]
    by_cases hk : e.1 = k
    · simp [hk]
    · simp only [hk, if_false, keys_cons, ih, decide_false, Bool.false_or]
      split <;> rfl

theorem mem_keys_set (l : Ents) (k : Key) (v : Int) (k' : Key) :
    k' ∈ (l.set k v).keys ↔ k' ∈ l.keys ∨ k' = k := by
  rw [mem_keys_iff, abs_set, mem_keys_iff]
  split <;> simp [*]

theorem nodup_set (l : Ents) (k : Key) (v : Int) (h : l.NoDupKeys) : (l.set k v).NoDupKeys := by
  unfold NoDupKeys
  rw [keys_set]
  split
  · exact h
  · rename_i hh
    rw [List.nodup_append]
    refine ⟨h, by simp, fun a ha b hb heq => hh ?_⟩
    rw [List.mem_singleton.1 hb] at heq
    exact has_iff_mem_keys.2 (heq ▸ ha)

theorem set_of_not_mem (l : Ents) (k : Key) (v : Int) (h : k ∉ l.keys) : l.set k v = l ++ [(k, v)] := by
  induction l with
  | nil => rfl
  | cons e rest ih =>
    rw [keys_cons, List.mem_cons, not_or] at h
    rw [set_cons, if_neg (Ne.symm h.1), ih h.2]
    rfl

theorem massOf_set (m : Key → Int) (l : Ents) (k : Key) (v : Int) :
    massOf m (l.set k v) = massOf m l + (v - l.get k) * m k := by
  induction l with
  | nil => simp [set, massOf]
  | cons e rest ih =>
    rw [get_cons, set_cons]
    split
    · rename_i hk
      simp only [massOf_cons, hk, Int.sub_mul]
      omega
    · rw [massOf_cons, massOf_cons, ih]
      omega

theorem abs_inc (l : Ents) (k : Key) (v : Int) (k' : Key) :
    abs (l.inc k v) k' = if k' = k then some (l.get k + v) else abs l k' := abs_set ..

theorem get_inc (l : Ents) (k : Key) (v : Int) (k' : Key) :
    (l.inc k v).get k' = l.get k' + (if k' = k then v else 0) := by
  rw [inc, get_set]
  split
  · rename_i h
    rw [h]
  · rw [Int.add_zero]

theorem nodup_inc (l : Ents) (k : Key) (v : Int) (h : l.NoDupKeys) : (l.inc k v).NoDupKeys :=
  nodup_set l k _ h

theorem massOf_inc (m : Key → Int) (l : Ents) (k : Key) (v : Int) :
    massOf m (l.inc k v) = massOf m l + v * m k := by
  rw [inc, massOf_set, Int.add_comm (l.get k), Int.add_sub_cancel]

@[simp] theorem keys_mapCounts (l : Ents) (f : Int → Int) : (l.mapCounts f).keys = l.keys := by
  simp [mapCounts, keys, Function.comp_def]

theorem nodup_mapCounts (l : Ents) (f : Int → Int) (h : l.NoDupKeys) : (l.mapCounts f).NoDupKeys := by
  unfold NoDupKeys
  rwa [keys_mapCounts]

theorem abs_mapCounts (l : Ents) (f : Int → Int) (k : Key) :
    abs (l.mapCounts f) k = (abs l k).map f := by
  induction l with
  | nil => rfl
  | cons e rest ih =>
    rw [mapCounts, List.map_cons, abs_cons, abs_cons, ← mapCounts, ih]
    split <;> rfl

/-- not for every `f`: an absent key reads 0 before and after, so `f 0 = 0` is needed -/
theorem get_mapCounts_mul (l : Ents) (n : Int) (k : Key) :
    (l.mapCounts (n * ·)).get k = n * l.get k := by
  rw [get_eq_abs, abs_mapCounts, get_eq_abs]
  cases abs l k <;> simp

theorem mapCounts_one (g : Ents) : g.mapCounts ((1 : Int) * ·) = g := by
  simp [mapCounts]

theorem massOf_mapCounts_mul (m : Key → Int) (l : Ents) (n : Int) :
    massOf m (l.mapCounts (n * ·)) = n * massOf m l := by
  induction l with
  | nil => simp [mapCounts, massOf]
  | cons e rest ih =>
    rw [mapCounts, List.map_cons, massOf_cons, massOf_cons, ← mapCounts, ih, Int.mul_add, Int.mul_assoc]

theorem addFrom_cons (a : Ents) (e : Key × Int) (b : Ents) (s : Int) :
    a.addFrom (e :: b) s = (a.inc e.1 (s * e.2)).addFrom b s := rfl

theorem nodup_addFrom (a b : Ents) (s : Int) (h : a.NoDupKeys) : (a.addFrom b s).NoDupKeys :=
  List.foldlRecOn b _ h fun l hl e _ => nodup_inc l e.1 _ hl

theorem abs_addFrom (a b : Ents) (s : Int) (k : Key) :
    abs (a.addFrom b s) k = if b.has k then some (a.get k + s * sumFor b k) else abs a k := by
  induction b generalizing a with
  | nil => rfl
  | cons e rest ih =>
    rw [addFrom_cons, ih, has_cons, sumFor_cons, get_inc, abs_inc]
    by_cases hk : e.1 = k
    · subst hk
      simp only [decide_true, Bool.true_or, if_true]
      split
      · rw [Int.mul_add, Int.add_assoc]
      · rename_i hr
        rw [sumFor_of_not_mem rest e.1 (fun hm => hr (has_iff_mem_keys.2 hm)), Int.add_zero]
    · simp only [hk, Ne.symm hk, decide_false, Bool.false_or, if_false, Int.add_zero, Int.zero_add]

theorem mem_keys_addFrom (a b : Ents) (s : Int) (k : Key) :
    k ∈ (a.addFrom b s).keys ↔ k ∈ a.keys ∨ k ∈ b.keys := by
  rw [mem_keys_iff, abs_addFrom, ← has_iff_mem_keys (l := b), mem_keys_iff]
  split <;> simp [*]

theorem get_addFrom (a b : Ents) (s : Int) (k : Key) :
    (a.addFrom b s).get k = a.get k + s * sumFor b k := by
  rw [get_eq_abs, abs_addFrom]
  split
  · rfl
  · rename_i h
    rw [sumFor_of_not_mem b k (fun hm => h (has_iff_mem_keys.2 hm)), ← get_eq_abs, Int.mul_zero, Int.add_zero]

theorem massOf_addFrom (m : Key → Int) (a b : Ents) (s : Int) :
    massOf m (a.addFrom b s) = massOf m a + s * massOf m b := by
  induction b generalizing a with
  | nil => simp [addFrom, massOf]
  | cons e rest ih =>
    rw [addFrom_cons, ih, massOf_inc, massOf_cons, Int.mul_add, Int.mul_assoc, Int.add_assoc]

theorem abs_ofPairs (ps : Ents) (k : Key) :
    abs (ofPairs ps) k = if ps.has k then some (sumFor ps k) else none := by
  rw [ofPairs, abs_addFrom, get_nil, Int.zero_add, Int.one_mul, abs_nil]

theorem get_ofPairs (ps : Ents) (k : Key) : (ofPairs ps).get k = sumFor ps k := by
  rw [ofPairs, get_addFrom, get_nil, Int.zero_add, Int.one_mul]

theorem mem_keys_ofPairs (ps : Ents) (k : Key) : k ∈ (ofPairs ps).keys ↔ k ∈ ps.keys := by
  rw [ofPairs, mem_keys_addFrom, keys_nil]
  simp

theorem nodup_ofPairs (ps : Ents) : (ofPairs ps).NoDupKeys := nodup_addFrom [] ps 1 nodup_nil

theorem nodup_ofSets (ps : Ents) : (ofSets ps).NoDupKeys :=
  List.foldlRecOn ps _ nodup_nil fun l hl e _ => nodup_set l e.1 e.2 hl

theorem foldl_set_nodup (acc l : Ents) (h : (acc ++ l).NoDupKeys) :
    l.foldl (fun acc e => acc.set e.1 e.2) acc = acc ++ l := by
  induction l generalizing acc with
  | nil => simp
  | cons e rest ih =>
    have h' : (acc ++ [e] ++ rest).NoDupKeys := by simpa using h
    have hnot : e.1 ∉ acc.keys := fun hm => by
      simp only [NoDupKeys, keys, List.map_append, List.map_cons] at h
      exact (List.nodup_append.1 h).2.2 e.1 hm e.1 List.mem_cons_self rfl
    rw [List.foldl_cons, set_of_not_mem _ _ _ hnot, ih _ h', List.append_assoc]
    rfl

theorem ofSets_nodup (l : Ents) (h : l.NoDupKeys) : Ents.ofSets l = l :=
  foldl_set_nodup [] l h

end Ents
end Chem
