import Mathlib.RingTheory.PowerSeries.Derivative
import Mathlib.RingTheory.PowerSeries.Inverse
/-
Power sums of a formal power series over ℚ.

For a series `F` the series `P` is its *power-sum series* when `F·P + X·F' = 0`
(i.e. `P = −X·F'/F = psOf F`, minus the logarithmic derivative).  The residual `F·P + X·F'` obeys
a product rule (`newton_mul`), from which: power sums add under products (`IsPS.mul`, `.pow`,
`.inv`), and `F` (with `F(0) = 1`) and `P` determine each other, also modulo `X^N`
(`IsPS.ps_unique`, `IsPS.esp_unique`).
`(X : ℚ⟦X⟧) ^ N ∣ _`, `LinearMap.map_sub`, `RingHom.map_mul`: a bare `X` (coefficient ring left to unification) and
the generic `map_sub` / `map_mul` (a search through the hom classes) are slow to elaborate.
-/
namespace Chem
open PowerSeries

def IsPS (F P : ℚ⟦X⟧) : Prop := F * P + X * derivative ℚ F = 0

theorem newton_mul (F G P Q : ℚ⟦X⟧) :
    F * G * (P + Q) + X * derivative ℚ (F * G) =
      G * (F * P + X * derivative ℚ F) + F * (G * Q + X * derivative ℚ G) := by
  rw [Derivation.leibniz, smul_eq_mul, smul_eq_mul]
  ring

theorem IsPS.one : IsPS 1 0 := by
  unfold IsPS
  rw [mul_zero, zero_add, derivative_one, mul_zero]

theorem IsPS.mul {F G P Q : ℚ⟦X⟧} (hF : IsPS F P) (hG : IsPS G Q) : IsPS (F * G) (P + Q) := by
  unfold IsPS at *
  rw [newton_mul, hF, hG, mul_zero, mul_zero, add_zero]

theorem IsPS.pow {F P : ℚ⟦X⟧} (hF : IsPS F P) (n : ℕ) : IsPS (F ^ n) ((n : ℚ⟦X⟧) * P) := by
  induction n with
  | zero =>
    rw [pow_zero, Nat.cast_zero, zero_mul]
    exact IsPS.one
  | succ n ih =>
    rw [pow_succ, Nat.cast_succ, add_mul, one_mul]
    exact ih.mul hF

theorem IsPS.inv {F P : ℚ⟦X⟧} (hF : constantCoeff F ≠ 0) (h : IsPS F P) : IsPS F⁻¹ (-P) := by
  have h1 := newton_mul F F⁻¹ P (-P)
  rw [PowerSeries.mul_inv_cancel F hF, add_neg_cancel, mul_zero, derivative_one, mul_zero, zero_add,
    h, mul_zero, zero_add] at h1
  have := congrArg (F⁻¹ * ·) h1
  simp only [mul_zero, ← mul_assoc, PowerSeries.inv_mul_cancel F hF, one_mul] at this
  exact this.symm

noncomputable def psOf (F : ℚ⟦X⟧) : ℚ⟦X⟧ := -(X * derivative ℚ F) * F⁻¹

theorem newton_eq {F : ℚ⟦X⟧} (hF : constantCoeff F ≠ 0) (P : ℚ⟦X⟧) :
    F * P + X * derivative ℚ F = F * (P - psOf F) := by
  rw [psOf, mul_sub, mul_left_comm, PowerSeries.mul_inv_cancel F hF, mul_one, sub_neg_eq_add]

theorem isPS_psOf {F : ℚ⟦X⟧} (hF : constantCoeff F ≠ 0) : IsPS F (psOf F) := by
  unfold IsPS
  rw [newton_eq hF, sub_self, mul_zero]

theorem sub_psOf {F : ℚ⟦X⟧} (hF : constantCoeff F ≠ 0) (P : ℚ⟦X⟧) :
    P - psOf F = F⁻¹ * (F * P + X * derivative ℚ F) := by
  rw [newton_eq hF, ← mul_assoc, PowerSeries.inv_mul_cancel F hF, one_mul]

theorem IsPS.eq_psOf {F P : ℚ⟦X⟧} (hF : constantCoeff F ≠ 0) (h : IsPS F P) : P = psOf F := by
  unfold IsPS at h
  exact sub_eq_zero.mp (by rw [sub_psOf hF, h, mul_zero])

theorem IsPS.const_mul {F P : ℚ⟦X⟧} (a : ℚ) (h : IsPS F P) : IsPS (C a * F) P := by
  have := IsPS.mul (F := C a) (P := 0) (by unfold IsPS; rw [mul_zero, zero_add, derivative_C, mul_zero]) h
  rwa [zero_add] at this

theorem IsPS.ps_unique {F P Q d : ℚ⟦X⟧} (hF : constantCoeff F ≠ 0)
    (h1 : d ∣ F * P + X * derivative ℚ F) (h2 : IsPS F Q) : d ∣ P - Q := by
  rw [h2.eq_psOf hF, sub_psOf hF]
  exact h1.mul_left _

theorem dvd_sub_iff_coeff {A B : ℚ⟦X⟧} {N : ℕ} :
    (X : ℚ⟦X⟧) ^ N ∣ A - B ↔ ∀ k, k < N → coeff k A = coeff k B := by
  simp only [X_pow_dvd_iff, LinearMap.map_sub, sub_eq_zero]

theorem dvd_sub_one_of_dvd_derivative {H : ℚ⟦X⟧} {N : ℕ} (h0 : constantCoeff H = 1)
    (h : (X : ℚ⟦X⟧) ^ N ∣ X * derivative ℚ H) : (X : ℚ⟦X⟧) ^ N ∣ H - 1 := by
  rw [X_pow_dvd_iff] at h
  refine dvd_sub_iff_coeff.2 fun m hm => ?_
  cases m with
  | zero => rw [coeff_zero_eq_constantCoeff_apply, h0, coeff_zero_one]
  | succ k =>
    have := h (k + 1) hm
    rw [coeff_succ_X_mul, coeff_derivative] at this
    rw [coeff_one, if_neg (Nat.succ_ne_zero k)]
    exact (mul_eq_zero.mp this).resolve_right (Nat.cast_add_one_ne_zero k)

theorem IsPS.esp_unique {F G P P' : ℚ⟦X⟧} {N : ℕ} (hF : constantCoeff F = 1)
    (hG : constantCoeff G = 1) (h1 : (X : ℚ⟦X⟧) ^ N ∣ F * P + X * derivative ℚ F) (h2 : IsPS G P')
    (h3 : (X : ℚ⟦X⟧) ^ N ∣ P - P') : (X : ℚ⟦X⟧) ^ N ∣ F - G := by
  have hG0 := ne_zero_of_eq_one hG
  -- `H = F / G` has `X·H' ≡ 0`, by the product rule for the Newton residual
  have hH := newton_mul F G⁻¹ P (-P')
  rw [h2.inv hG0, mul_zero, add_zero, ← sub_eq_add_neg] at hH
  -- `hH.symm ▸`: a plain `hH ▸` tries the other direction first and unfolds the products to compare them
  have := (dvd_sub_one_of_dvd_derivative (H := F * G⁻¹)
    (by rw [RingHom.map_mul, constantCoeff_inv, hF, hG, inv_one, mul_one])
    ((dvd_add_right (h3.mul_left _)).1 (hH.symm ▸ h1.mul_left G⁻¹))).mul_left G
  rwa [mul_sub, mul_left_comm, PowerSeries.mul_inv_cancel G hG0, mul_one, mul_one] at this

theorem IsPS.coeff_zero {G P : ℚ⟦X⟧} (hG : IsPS G P) (hG0 : constantCoeff G ≠ 0) :
    coeff 0 P = 0 := by
  have := congrArg (coeff 0) hG
  rw [LinearMap.map_add, coeff_zero_X_mul, add_zero, coeff_mul, Finset.Nat.antidiagonal_zero,
    Finset.sum_singleton, coeff_zero_eq_constantCoeff_apply, LinearMap.map_zero] at this
  exact (mul_eq_zero.mp this).resolve_left hG0

theorem dvd_X_mul_derivative {A : ℚ⟦X⟧} {N : ℕ} (h : (X : ℚ⟦X⟧) ^ N ∣ A) :
    (X : ℚ⟦X⟧) ^ N ∣ X * derivative ℚ A := by
  rw [X_pow_dvd_iff] at h ⊢
  intro m hm
  cases m with
  | zero => exact coeff_zero_X_mul _
  | succ k => rw [coeff_succ_X_mul, coeff_derivative, h (k + 1) hm, zero_mul]

theorem newton_dvd_congr {F G P : ℚ⟦X⟧} {N : ℕ} (hFG : (X : ℚ⟦X⟧) ^ N ∣ F - G)
    (h : (X : ℚ⟦X⟧) ^ N ∣ F * P + X * derivative ℚ F) :
    (X : ℚ⟦X⟧) ^ N ∣ G * P + X * derivative ℚ G := by
  have hd := dvd_add (hFG.mul_right P) (dvd_X_mul_derivative hFG)
  rw [map_sub, sub_mul, mul_sub, ← add_sub_add_comm] at hd
  exact (dvd_sub_right h).1 hd

theorem psOf_congr {F G : ℚ⟦X⟧} {N : ℕ} (hF : constantCoeff F ≠ 0) (hG : constantCoeff G ≠ 0)
    (h : (X : ℚ⟦X⟧) ^ N ∣ F - G) : (X : ℚ⟦X⟧) ^ N ∣ psOf F - psOf G :=
  IsPS.ps_unique hG (newton_dvd_congr h ((isPS_psOf hF).symm ▸ dvd_zero _)) (isPS_psOf hG)

end Chem
