import ChemProofs.Model.Formula
/- The outcome type `Res` (`Model/ElemSpec.lean`) with its `bind` (`Model/Formula.lean`), and the no-panic predicate
`Res.Safe` with its rules.  Core Lean only. -/
namespace Chem

@[simp]
theorem Res.ok_bind {α β} (a : α) (f : α → Res β) : (Res.ok a).bind f = f a := rfl

theorem Res.bind_err {α β} (f : α → Res β) : (Res.err : Res α).bind f = .err := rfl

theorem Res.bind_panic {α β} (f : α → Res β) : (Res.panic : Res α).bind f = .panic := rfl

theorem Res.bind_assoc {α β γ} (r : Res α) (f : α → Res β) (g : β → Res γ) :
    (r.bind f).bind g = r.bind fun a => (f a).bind g := by
  cases r <;> rfl

theorem Res.bind_ok_self {α} (r : Res α) : (r.bind fun a => .ok a) = r := by
  cases r <;> rfl

theorem Res.bind_eq_ok {α β} {r : Res α} {f : α → Res β} {b : β} :
    r.bind f = .ok b ↔ ∃ a, r = .ok a ∧ f a = .ok b :=
  ⟨fun h => match r, h with | .ok a, h => ⟨a, rfl, h⟩, fun ⟨_, h1, h2⟩ => h1 ▸ h2⟩

def Res.ofOpt {α} : Option α → Res α
  | some a => .ok a
  | none => .err

theorem Res.ofOpt_eq_ok {α} {o : Option α} {a : α} : Res.ofOpt o = .ok a ↔ o = some a := by
  cases o with
  | none => exact ⟨nofun, nofun⟩
  | some b => exact ⟨fun h => congrArg some (Res.ok.inj h), fun h => congrArg Res.ok (Option.some.inj h)⟩

/-- weakest-precondition style predicate: `r` is not a panic, and if it is `ok a` then `P a` -/
def Res.Safe {α} (r : Res α) (P : α → Prop) : Prop :=
  match r with
  | .ok a => P a
  | .err => True
  | .panic => False

theorem Res.Safe.ne_panic {α} {r : Res α} {P : α → Prop} (h : r.Safe P) : r ≠ .panic := by
  intro e; subst e; exact h

theorem Res.Safe.bind {α β} {r : Res α} {f : α → Res β} {P : α → Prop} {Q : β → Prop}
    (h : r.Safe P) (hf : ∀ a, P a → (f a).Safe Q) : (r.bind f).Safe Q := by
  cases r with
  | ok a => exact hf a h
  | err => trivial
  | panic => exact h.elim

theorem Res.Safe.mono {α} {r : Res α} {P Q : α → Prop}
    (h : r.Safe P) (hpq : ∀ a, P a → Q a) : r.Safe Q := by
  cases r with
  | ok a => exact hpq a h
  | err => trivial
  | panic => exact h.elim

theorem Res.safe_of_ne_panic {α} {r : Res α} (h : r ≠ .panic) : r.Safe (fun _ => True) := by
  cases r with
  | ok a => trivial
  | err => trivial
  | panic => exact (h rfl).elim

theorem Res.ofOpt_safe {α} {o : Option α} : (Res.ofOpt o).Safe fun _ => True := by
  cases o <;> trivial

theorem Res.Safe.ok_intro {α} {a : α} {P : α → Prop} (h : P a) : (Res.ok a).Safe P := h

theorem Res.Safe.ite {α} {c : Prop} [Decidable c] {a b : Res α} {P : α → Prop}
    (ha : c → a.Safe P) (hb : ¬c → b.Safe P) : (if c then a else b).Safe P := by
  split
  · exact ha ‹c›
  · exact hb ‹¬c›

/-- two outcomes of the same kind, related by `R` when both are values -/
def ResRel {α β} (R : α → β → Prop) : Res α → Res β → Prop
  | .ok a, .ok b => R a b
  | .err, .err => True
  | .panic, .panic => True
  | _, _ => False

end Chem
