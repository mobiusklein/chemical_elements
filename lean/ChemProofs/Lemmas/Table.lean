import ChemProofs.Model.Table
/- Lookup in a periodic table (`Table.find?`), in an element (`Elem.iso?`) and distinctness of keys (`nodupSyms`), for any table. -/
namespace Chem

theorem nodupSyms_iff (l : List Sym) : nodupSyms l = true ↔ l.Nodup := by
  induction l with
  | nil => simp [nodupSyms]
  | cons s rest ih => simp [nodupSyms, ih, List.nodup_cons]

theorem find?_key_some {α κ} [BEq κ] [LawfulBEq κ] {key : α → κ} {l : List α} {s : κ} {q : α}
    (h : l.find? (fun y => key y == s) = some q) : q ∈ l ∧ key q = s :=
  have hs := List.find?_some h
  ⟨List.mem_of_find?_eq_some h, eq_of_beq hs⟩

theorem Table.find?_tkey (T : Table) (s : Sym) (e : Elem) (h : T.find? s = some e) : e.tkey = s ∧ e ∈ T :=
  (find?_key_some h).symm

theorem find?_key_of_mem {α κ} [BEq κ] [LawfulBEq κ] (key : α → κ) {x : α} {l : List α}
    (h : (l.map key).Nodup) (hx : x ∈ l) : l.find? (fun y => key y == key x) = some x := by
  induction l with
  | nil => nomatch hx
  | cons y l ih =>
    rw [List.map_cons, List.nodup_cons] at h
    rw [List.find?_cons]
    rcases List.mem_cons.1 hx with rfl | hx
    · rw [beq_self_eq_true]
    · rw [beq_eq_false_iff_ne.2 fun hy : key y = key x => h.1 (hy ▸ List.mem_map_of_mem hx)]
      exact ih h.2 hx

theorem Table.find?_of_mem {T : Table} (h : (T.map (·.tkey)).Nodup) {e : Elem} (he : e ∈ T) :
    T.find? e.tkey = some e :=
  find?_key_of_mem (fun e : Elem => e.tkey) h he

theorem Table.find?_eq_none {T : Table} {s : Sym} (h : s ∉ T.map (·.tkey)) : T.find? s = none := by
  rw [Table.find?, List.find?_eq_none]
  exact fun e he hs => h (beq_iff_eq.1 hs ▸ List.mem_map_of_mem he)

theorem Elem.iso?_some {e : Elem} {n : Nat} {i : Iso} (h : e.iso? n = some i) : i ∈ e.isos ∧ i.key = n :=
  find?_key_some h

theorem Elem.iso?_isSome_of_mem {e : Elem} {i : Iso} (hi : i ∈ e.isos) : (e.iso? i.key).isSome = true :=
  List.find?_isSome.2 ⟨i, hi, by simp⟩

end Chem
