import ChemProofs.Lemmas.Sort
import ChemProofs.Lemmas.Table
/-
`data/build.rs` (`Model/BuildRs.lean`): the isotopes of zero abundance, and the order of the table.

`prepare_element` sorts all isotopes of an element by their key text and only then drops those whose abundance reads as
0.0, nine in ten of the data file.  As the sort commutes with the filter (`filter_stableSort`) they do not influence the
generated element, and a replay over the whole file may drop them first (by the literal: `0` reads as 0.0): its quadratic
sort then runs on short lists.  `tableFromNist` looks every generated element up in the table; when no key occurs twice
it is enough that the table is a permutation of the generated elements (`tableFromNist_of_perm`).
-/
namespace Chem

theorem roundF64_zero (d : Nat) : roundF64 ⟨0, d⟩ = ⟨0, 1⟩ := by simp [roundF64]

def NistElem.dropZero (e : NistElem) : NistElem :=
  { e with isos := e.isos.filter fun n => n.abund.man != 0 }

theorem prepareElement_dropZero (e : NistElem) : prepareElement e.dropZero = prepareElement e := by
  -- what `build.rs` keeps has a non-zero literal
  have hq (n : NistIso) : ((roundF64 n.abund.toFrac).num != 0 && n.abund.man != 0) = ((roundF64 n.abund.toFrac).num != 0) := by
    by_cases h : n.abund.man = 0
    · simp [Dec.toFrac, h, roundF64_zero]
    · simp [h]
  simp only [prepareElement, NistElem.dropZero, List.filter_map, Function.comp_def,
    ← filter_stableSort (lexLt_strictWeak NistIso.key), List.filter_filter, hq]

theorem builtElement_tkey (n : NistElem) : (builtElement n).tkey = n.sym := by
  simp only [builtElement, Elem.indexIsotopes, prepareElement]
  split <;> rfl

theorem tableFromNist_of_perm {nist : List NistElem} {T : Table} (hk : (T.map (·.tkey)).Nodup)
    (h : T.Perm (nist.map builtElement)) : tableFromNist nist T = true := by
  simp only [tableFromNist, Bool.and_eq_true, beq_iff_eq, List.all_eq_true]
  refine ⟨by rw [h.length_eq, List.length_map], fun n hn => ?_⟩
  have := Table.find?_of_mem hk (h.mem_iff.2 (List.mem_map_of_mem hn))
  rw [builtElement_tkey] at this
  simp [this, elemsAgree]

end Chem
