import ChemProofs.Lemmas.PStep
/-
The offsets of `PState` are a representation of the pieces of the term that is being read.  `Pend` is that
term as pieces of text; `Pend.state k` the machine state that stands for it when the term begins at position
`k`; `push` / `start` / `close` what a character and the flush do to the pieces.  `run_eq` : on any text the
loop of `Model/Formula.lean` followed by its end-of-input `match` is `arun`, a parser without offsets and
slices.  What follows the machine over a text (C01, the converse of C05, fuel) is an induction over `arun` by its two
equations, `arun_push` and `arun_flush`; only the panic-freedom of C05 (on the offsets) and the group bodies of C01 stay on
the machine.

In this order: the pieces, `arun` and its equations; the text of the pieces after a character (`Pend.push_text`); the machine
on the state of the pieces (`flushAt_state`, `pstep_state`, `run_eq`, `parseA_succ`).  Then on `arun` alone: what the
characters of a symbol, a number and a bracket do to the pieces (`arun_symbol`, `arun_digits`, `arun_bracket`), and that
`arun` asks the level below only for group bodies shorter than the text (`arun_congr`).
-/
namespace Chem

inductive Pend where
  | new
  | sym (w : List Nat)
  | isoOpen (w ds : List Nat)
  | isoDone (w ds : List Nat)
  | count (w : List Nat) (iso : Option (List Nat)) (ds : List Nat)
  | grp (body : List Nat) (depth : Int)
  | grpDone (body : List Nat)
  | grpCount (body ds : List Nat)

namespace Pend

/-- the text of the pieces, each stage being the stage before it and one more piece -/
def text : Pend → List Nat
  | new => []
  | sym w => w
  | isoOpen w ds => w ++ 91 :: ds
  | isoDone w ds => (w ++ 91 :: ds) ++ [93]
  | count w none ds => w ++ ds
  | count w (some d) ds => ((w ++ 91 :: d) ++ [93]) ++ ds
  | grp b _ => 40 :: b
  | grpDone b => (40 :: b) ++ [41]
  | grpCount b ds => ((40 :: b) ++ [41]) ++ ds

/-- the machine state for a pending term that begins at `k`: every offset is the position at which the
    piece it delimits began or ended, every other field has its initial value -/
def state (k : Nat) : Pend → PState
  | new => {}
  | sym _ => { es := k, st := .element }
  | isoOpen w _ => { es := k, ee := k + w.length, is := k + w.length + 1, st := .isotope }
  | isoDone w ds =>
    { es := k, ee := k + w.length, is := k + w.length + 1, ie := k + (isoOpen w ds).text.length,
      st := .isotopeToCount }
  | count w none _ => { es := k, ee := k + w.length, cs := k + w.length, st := .count }
  | count w (some d) _ =>
    { es := k, ee := k + w.length, is := k + w.length + 1, ie := k + (isoOpen w d).text.length,
      cs := k + (isoDone w d).text.length, st := .count }
  | grp _ d => { paren := d, gs := k + 1, st := .group }
  | grpDone b => { gs := k + 1, ge := k + (grp b 0).text.length, st := .groupToGroupCount }
  | grpCount b _ =>
    { gs := k + 1, ge := k + (grp b 0).text.length, gcs := k + (grpDone b).text.length, st := .groupCount }

def start (c : Nat) : Option Pend :=
  if isUpperStart c then some (sym [c]) else if c == 40 then some (grp [] 1) else none

/-- the pending term after a character that goes on with it (the conditions are those of `pstep`) -/
def push (cc : CharClass) (c : Nat) : Pend → Option Pend
  | new => start c
  | sym w =>
    if isAsciiAlpha c then (if isAsciiUpper c then none else some (sym (w ++ [c])))
    else if cc.numeric c then some (count w none [c])
    else if c == 91 then some (isoOpen w [])
    else if c == 40 then none
    else some (sym (w ++ [c]))
  | isoOpen w ds =>
    if c == 93 then some (isoDone w ds) else if !cc.numeric c then none else some (isoOpen w (ds ++ [c]))
  | isoDone w ds => if cc.numeric c then some (count w (some ds) [c]) else none
  | count w iso ds => if !cc.numeric c then none else some (count w iso (ds ++ [c]))
  | grp b d =>
    if c == 41 then (if d - 1 == 0 then some (grpDone b) else some (grp (b ++ [c]) (d - 1)))
    else if c == 40 then some (grp (b ++ [c]) (d + 1))
    else some (grp (b ++ [c]) d)
  | grpDone b => if !cc.numeric c then none else some (grpCount b [c])
  | grpCount b ds => if !cc.numeric c then none else some (grpCount b (ds ++ [c]))

/-- the number in the bracket that is pending when a count is flushed: no bracket and `[]` count as 0 -/
def isoNum : Option (List Nat) → Res Nat
  | none => .ok 0
  | some d => if d = [] then .ok 0 else Res.ofOpt (parseU16 d)

def close (T : Table) (sub : List Nat → Res Ents) (acc : Ents) : Pend → Res Ents
  | sym w => (Res.ofOpt (T.find? w)).bind fun e => .ok (acc.inc (e.sym, 0) 1)
  | isoDone w ds =>
    (Res.ofOpt (T.find? w)).bind fun e => (Res.ofOpt (parseU16 ds)).bind fun v =>
      (mkKey e v).bind fun k => .ok (acc.inc k 1)
  | count w iso ds =>
    (Res.ofOpt (parseI32 ds)).bind fun n => (isoNum iso).bind fun v =>
      (Res.ofOpt (T.find? w)).bind fun e => (mkKey e v).bind fun k => .ok (acc.inc k n)
  | grpDone b => (sub b).bind fun g => .ok (acc.addFrom g 1)
  | grpCount b ds =>
    (sub b).bind fun g => (Res.ofOpt (parseI32 ds)).bind fun n => .ok (acc.addFrom (g.mapCounts (n * ·)) 1)
  | _ => .err

end Pend

/-- The parser of one nesting level on pieces of text, without offsets and slices: a character goes on with the
    pending term, or the term is flushed and the character starts the next. -/
def arun (cc : CharClass) (T : Table) (sub : List Nat → Res Ents) : List Nat → Pend → Ents → Res Ents
  | [], pd, acc => pd.close T sub acc
  | c :: rest, pd, acc =>
    match pd.push cc c with
    | some pd' => arun cc T sub rest pd' acc
    | none =>
      (pd.close T sub acc).bind fun acc' => (Res.ofOpt (Pend.start c)).bind fun pd' => arun cc T sub rest pd' acc'

section
variable {cc : CharClass} {T : Table} {sub : List Nat → Res Ents} {c : Nat}

theorem arun_push {pd pd' : Pend} (h : pd.push cc c = some pd') (rest : List Nat) (acc : Ents) :
    arun cc T sub (c :: rest) pd acc = arun cc T sub rest pd' acc := by
  rw [arun, h]

theorem arun_flush {pd : Pend} (h : pd.push cc c = none) (rest : List Nat) (acc : Ents) :
    arun cc T sub (c :: rest) pd acc =
      (pd.close T sub acc).bind fun acc' => (Res.ofOpt (Pend.start c)).bind fun pd' => arun cc T sub rest pd' acc' := by
  rw [arun, h]

/-- a run of characters each of which is appended to the last piece `x` of `f x` -/
theorem arun_run {f : List Nat → Pend} {w : List Nat}
    (h : ∀ x, ∀ c ∈ w, (f x).push cc c = some (f (x ++ [c]))) (x rest : List Nat) (acc : Ents) :
    arun cc T sub (w ++ rest) (f x) acc = arun cc T sub rest (f (x ++ w)) acc := by
  induction w generalizing x with
  | nil => rw [List.append_nil]; rfl
  | cons c w ih =>
    rw [List.cons_append, arun_push (h x c List.mem_cons_self),
      ih (fun y d hd => h y d (List.mem_cons_of_mem _ hd)), List.append_assoc]
    rfl

/-- A property of the value of an `if` between two options, branch by branch.  The facts about `Pend.push` and
    `Pend.start` (here and in `Props/C05Sound.lean`) are proved by terms that follow the `if`-tree of the definition:
    one `some_ite_elim` per `if` with the branches in the order of the source, `some_elim` at a `some` leaf and `none_elim`
    at a `none` (`pstep_state` below does the same with `ite_option_elim`).  A `split` per branch says the same and is
    several times dearer to check on these goals. -/
theorem some_ite_elim {α} {p : Prop} [Decidable p] {x y : Option α} {P : α → Prop}
    (h1 : p → ∀ a, x = some a → P a) (h2 : ¬p → ∀ a, y = some a → P a) :
    ∀ a, (if p then x else y) = some a → P a := by
  split
  · exact h1 ‹p›
  · exact h2 ‹¬p›

theorem some_elim {α} {P : α → Prop} {x : α} (h : P x) : ∀ a, some x = some a → P a :=
  fun _ e => Option.some.inj e ▸ h

theorem none_elim {α} {P : α → Prop} : ∀ a, (none : Option α) = some a → P a :=
  nofun

theorem Pend.start_upper (h : isAsciiUpper c = true) : Pend.start c = some (.sym [c]) := by
  rw [Pend.start, isUpperStart_eq, if_pos h]

theorem Pend.start_text : ∀ pd', Pend.start c = some pd' → pd'.text = [c] :=
  some_ite_elim (fun _ => some_elim rfl) fun _ =>
    some_ite_elim (fun h40 => some_elim (by rw [beq_iff_eq.1 h40]; rfl)) fun _ => none_elim

theorem Pend.push_text {pd : Pend} : ∀ pd', pd.push cc c = some pd' → pd'.text = pd.text ++ [c] := by
  cases pd with
  | new => exact Pend.start_text
  | sym w =>
    exact some_ite_elim (fun _ => some_ite_elim (fun _ => none_elim) fun _ => some_elim rfl) fun _ =>
      some_ite_elim (fun _ => some_elim rfl) fun _ =>
      some_ite_elim (fun h91 => some_elim (by rw [beq_iff_eq.1 h91]; rfl)) fun _ =>
      some_ite_elim (fun _ => none_elim) fun _ => some_elim rfl
  | isoOpen w ds =>
    exact some_ite_elim (fun h93 => some_elim (by rw [beq_iff_eq.1 h93]; rfl)) fun _ =>
      some_ite_elim (fun _ => none_elim) fun _ => some_elim (List.append_assoc w (91 :: ds) [c]).symm
  | isoDone w ds => exact some_ite_elim (fun _ => some_elim rfl) fun _ => none_elim
  | count w iso ds => exact some_ite_elim (fun _ => none_elim) fun _ => some_elim (by cases iso <;> exact (List.append_assoc _ ds [c]).symm)
  | grp b d =>
    exact some_ite_elim
      (fun h41 => some_ite_elim (fun _ => some_elim (by rw [beq_iff_eq.1 h41]; rfl)) fun _ => some_elim rfl)
      fun _ => some_ite_elim (fun _ => some_elim rfl) fun _ => some_elim rfl
  | grpDone b => exact some_ite_elim (fun _ => none_elim) fun _ => some_elim rfl
  | grpCount b ds => exact some_ite_elim (fun _ => none_elim) fun _ => some_elim (List.append_assoc _ ds [c]).symm

/-! The machine: `s` is the whole text, `pre` what stands in it before the pending term. -/

variable {s : List Nat} {acc : Ents}

/-- The slices the flush takes are the pieces of the pending term, and it resets every offset it has used. -/
theorem flushAt_state {pd : Pend} {pre post : List Nat} (hs : s = pre ++ (pd.text ++ post)) :
    flushAt T sub s (pd.state pre.length) acc (pre.length + pd.text.length) =
      (pd.close T sub acc).bind fun acc' => .ok ({ st := (pd.state pre.length).st }, acc') := by
  cases pd with
  | new | isoOpen w ds | grp b d => rfl
  | sym w =>
    have hw := slice_first (m := w) hs
    simp only [flushAt, Pend.state, flushElem, Pend.text, lookupElem_ofOpt, hw, Pend.close, Res.bind_assoc, Res.ok_bind]
  | isoDone w ds =>
    have hs' : s = pre ++ ((w ++ 91 :: ds) ++ ([93] ++ post)) := by rw [hs, Pend.text, List.append_assoc]
    have hw := slice_first (m := w) (hs'.trans (by rw [List.append_assoc]))
    simp only [flushAt, Pend.state, flushIso, lookupElem_ofOpt, isoNumber_ofOpt, hw, slice_after hs', Pend.text,
      Pend.close, Res.bind_assoc, Res.ok_bind]
  | count w iso ds =>
    cases iso with
    | none =>
      have hw := slice_first (m := w) (hs.trans (by rw [Pend.text, List.append_assoc]))
      simp only [flushAt, Pend.state, flushCount, elemCount_ofOpt, lookupElem_ofOpt, hw, slice_stage hs, Pend.text,
        Pend.close, Pend.isoNum, Res.bind_assoc, Res.ok_bind, bne_self_eq_false, Bool.false_eq_true, if_false]
    | some d =>
      have hs' : s = pre ++ ((w ++ 91 :: d) ++ ([93] ++ ds ++ post)) := by
        rw [hs, Pend.text]; simp only [List.append_assoc]
      have hw := slice_first (m := w) (hs'.trans (by rw [List.append_assoc]))
      have hne : (pre.length + (w ++ 91 :: d).length != pre.length + w.length + 1) = !decide (d = []) := by
        cases d <;> simp <;> omega
      simp only [flushAt, Pend.state, flushCount, elemCount_ofOpt, lookupElem_ofOpt, isoNumber_ofOpt, hw, slice_stage hs,
        slice_after hs', hne, Pend.text, Pend.close, Pend.isoNum, Res.bind_assoc, Res.ok_bind]
      by_cases h0 : d = [] <;> simp [h0]
  | grpDone b =>
    have hb : slice s (pre.length + 1) (pre.length + (40 :: b).length) = .ok b :=
      slice_after (a := []) (hs.trans (by rw [Pend.text, List.append_assoc]; rfl))
    simp only [flushAt, Pend.state, Pend.text, hb, Pend.close, Res.bind_assoc, Res.ok_bind]
  | grpCount b ds =>
    have hb : slice s (pre.length + 1) (pre.length + (40 :: b).length) = .ok b :=
      slice_after (a := []) (post := [41] ++ ds ++ post) (hs.trans (by rw [Pend.text]; simp only [List.append_assoc]; rfl))
    simp only [flushAt, Pend.state, Pend.text, groupCount_ofOpt, hb, slice_stage hs, Pend.close, Res.bind_assoc,
      Res.ok_bind]

/-- After a flush every field but `st` has its initial value, `paren = 0` among them: so `paren_stack = 1` and
    `paren_stack += 1` (the flag `b`) leave the same state. -/
theorem pnext_clean {x : PSt} {a : Ents} {i : Nat} (b : Bool) {up : Nat → Bool} (hup : up c = isUpperStart c) :
    pnext ({ st := x }, a) i c b up = (Res.ofOpt (Pend.start c)).bind fun pd' => .ok (pd'.state i, a) := by
  unfold pnext afterTerm Pend.start
  rw [hup]
  cases h40 : c == 40
  · cases isUpperStart c <;> rfl
  · rw [show isUpperStart c = false by rw [beq_iff_eq.1 h40]; rfl]
    cases b <;> rfl

/-- `some_ite_elim` for an equation whose right side is `Option.elim` of the `if` -/
theorem ite_option_elim {α β} {p : Prop} [Decidable p] {a b d : β} {g : α → β} {x y : Option α}
    (h1 : p → a = x.elim d g) (h2 : ¬p → b = y.elim d g) :
    (if p then a else b) = (if p then x else y).elim d g := by
  split
  · exact h1 ‹p›
  · exact h2 ‹¬p›

/-- The step of the machine on the state of a pending term: `pstep` and `Pend.push` branch on the same
    conditions; where the character goes on with the term the new state is the state of the new pieces. -/
theorem pstep_state {pd : Pend} {pre rest : List Nat} (hs : s = pre ++ (pd.text ++ c :: rest)) :
    pstep cc T sub s (pd.state pre.length) acc (pre.length + pd.text.length) c =
      (pd.push cc c).elim
        ((pd.close T sub acc).bind fun acc' => (Res.ofOpt (Pend.start c)).bind fun pd' =>
          .ok (pd'.state (pre.length + pd.text.length), acc'))
        fun pd' => .ok (pd'.state pre.length, acc) := by
  have hfl := flushAt_state (T := T) (sub := sub) (acc := acc) hs
  cases pd with
  | new =>
    rw [pstep_new rfl]
    exact ite_option_elim (fun _ => rfl) fun _ => ite_option_elim (fun _ => rfl) fun _ => rfl
  | sym w =>
    rw [pstep_element rfl, hfl]
    refine ite_option_elim (fun _ => ite_option_elim (fun hu => ?_) fun _ => rfl) fun _ => ite_option_elim (fun _ => rfl) fun _ =>
      ite_option_elim (fun _ => rfl) fun _ => ite_option_elim (fun h40 => ?_) fun _ => rfl
    · rw [Res.bind_assoc, Pend.start_upper hu]; rfl
    · rw [Res.bind_assoc, beq_iff_eq.1 h40]; rfl
  | isoOpen w ds =>
    rw [pstep_isotope rfl]
    exact ite_option_elim (fun _ => rfl) fun _ => ite_option_elim (fun _ => rfl) fun _ => rfl
  | isoDone w ds =>
    rw [pstep_isotopeToCount rfl, hfl, Res.bind_assoc]
    refine ite_option_elim (fun _ => rfl) fun _ => ?_
    simp only [Res.ok_bind, pnext_clean false (isUpperStart_eq c).symm]
    rfl
  | count w iso ds =>
    rw [pstep_count (by cases iso <;> rfl), hfl, Res.bind_assoc]
    refine ite_option_elim (fun _ => ?_) fun _ => by cases iso <;> rfl
    simp only [Res.ok_bind, pnext_clean true rfl]
    rfl
  | grp b d =>
    rw [show Pend.state pre.length (.grp b d) = { paren := d, gs := pre.length + 1, st := .group } from rfl,
      pstep_group rfl]
    refine ite_option_elim (fun _ => ite_option_elim (fun hd => ?_) fun _ => rfl) fun _ => ite_option_elim (fun _ => rfl) fun _ => rfl
    rw [beq_iff_eq.1 hd]; rfl
  | grpDone b =>
    rw [pstep_groupToGroupCount rfl, hfl, Res.bind_assoc]
    refine ite_option_elim (fun _ => ?_) fun _ => rfl
    simp only [Res.ok_bind, pnext_clean true rfl]
    rfl
  | grpCount b ds =>
    rw [pstep_groupCount rfl, hfl, Res.bind_assoc]
    refine ite_option_elim (fun _ => ?_) fun _ => rfl
    simp only [Res.ok_bind, pnext_clean true rfl]
    rfl

theorem run_eq {pd : Pend} {pre rest : List Nat} (hs : s = pre ++ (pd.text ++ rest)) :
    ((ploop cc T sub s rest (pre.length + pd.text.length) (pd.state pre.length) acc).bind fun x =>
      pfinish T sub s x.1 x.2) = arun cc T sub rest pd acc := by
  induction rest generalizing pre pd acc with
  | nil =>
    have hlen : s.length = pre.length + pd.text.length := by rw [hs]; simp
    rw [ploop_nil, Res.ok_bind, pfinish_eq, hlen, flushAt_state hs, Res.bind_assoc]
    exact Res.bind_ok_self _
  | cons c rest ih =>
    rw [ploop_cons, pstep_state hs]
    cases hp : pd.push cc c with
    | some pd' =>
      have ht := Pend.push_text _ hp
      have := ih (pd := pd') (pre := pre) (acc := acc) (by rw [hs, ht]; simp)
      rw [ht, List.length_append, ← Nat.add_assoc] at this
      rw [arun_push hp]
      exact this
    | none =>
      rw [arun_flush hp]
      simp only [Option.elim, Res.bind_assoc]
      cases pd.close T sub acc with
      | err | panic => rfl
      | ok acc' =>
        cases hst : Pend.start c with
        | none => rfl
        | some pd' =>
          have ht := Pend.start_text _ hst
          have := ih (pd := pd') (pre := pre ++ pd.text) (acc := acc') (by rw [hs, ht]; simp)
          rw [ht, List.length_append] at this
          exact this

theorem run_eq_nil {pd : Pend} {rest : List Nat} (hs : s = pd.text ++ rest) :
    ((ploop cc T sub s rest pd.text.length (pd.state 0) acc).bind fun x => pfinish T sub s x.1 x.2) =
      arun cc T sub rest pd acc := by
  rw [← run_eq (pre := []) hs, List.length_nil, Nat.zero_add]

end

theorem parseA_succ (cc : CharClass) (T : Table) (fuel : Nat) (s : List Nat) :
    parseA cc T (fuel + 1) s = arun cc T (parseA cc T fuel) s .new [] :=
  run_eq_nil (pd := .new) rfl

theorem parseFormula_eq_arun (cc : CharClass) (T : Table) (s : List Nat) :
    parseFormula cc T s = arun cc T (parseA cc T s.length) s .new [] :=
  parseA_succ cc T s.length s

section
variable {cc : CharClass} {T : Table} {sub : List Nat → Res Ents}

/-! On `arun` alone: what the characters of a symbol, a number and a bracket do to the pieces. -/

theorem Pend.push_sym_inert {c : Nat} {w : List Nat} (hc : inert cc c = true) :
    (Pend.sym w).push cc c = some (.sym (w ++ [c])) := by
  simp only [inert, Bool.and_eq_true, Bool.not_eq_true', bne] at hc
  obtain ⟨⟨⟨⟨h1, h2⟩, h3⟩, h4⟩, _⟩ := hc
  dsimp only [Pend.push]
  rw [h1, h2, h3, h4]
  cases isAsciiAlpha c <;> rfl

theorem Pend.push_lower {c : Nat} {w : List Nat} (hl : isAsciiLower c = true) :
    (Pend.sym w).push cc c = some (.sym (w ++ [c])) := by
  have h97 : 97 ≤ c := of_decide_eq_true (Bool.and_eq_true_iff.1 hl).1
  have hu : isAsciiUpper c = false := by
    rw [isAsciiUpper, decide_eq_false (Nat.not_le.2 (Nat.lt_of_lt_of_le (by decide : 90 < 97) h97)), Bool.and_false]
  dsimp only [Pend.push]
  rw [isAsciiAlpha, hl, hu]
  rfl

theorem Pend.push_digit (hcc : cc.AsciiOK) {c : Nat} {pd : Pend} (hd : isAsciiDigit c = true) : pd.push cc c =
    match pd with
    | .sym w => some (.count w none [c])
    | .isoOpen w ds => some (.isoOpen w (ds ++ [c]))
    | .isoDone w ds => some (.count w (some ds) [c])
    | .count w iso ds => some (.count w iso (ds ++ [c]))
    | .grp b d => some (.grp (b ++ [c]) d)
    | .grpDone b => some (.grpCount b [c])
    | .grpCount b ds => some (.grpCount b (ds ++ [c]))
    | .new => none := by
  have hn := numeric_of_digit hcc hd
  obtain ⟨h1, h2, h3, h4⟩ := digit_facts hd
  cases pd <;> simp [Pend.push, Pend.start, isUpperStart, hn, h1, h2, h3, h4]

theorem Pend.push_lbr (hcc : cc.AsciiOK) {w : List Nat} : (Pend.sym w).push cc 91 = some (.isoOpen w []) := by
  dsimp only [Pend.push]
  rw [(hcc 91 (by decide)).2.1]
  rfl

theorem Pend.push_rbr {w ds : List Nat} : (Pend.isoOpen w ds).push cc 93 = some (.isoDone w ds) :=
  rfl

theorem Pend.push_sym_starts (hcc : cc.AsciiOK) {c : Nat} (hc : Starts c) (w : List Nat) : (Pend.sym w).push cc c = none := by
  dsimp only [Pend.push]
  rw [starts_not_numeric hcc hc]
  rcases hc with hc | rfl
  · rw [(upperStart_facts hc).1, (upperStart_facts hc).2.1]
    rfl
  · rfl

theorem arun_symbol {U : Nat} {lows : List Nat} (hU : isAsciiUpper U = true) (hl : ∀ c ∈ lows, isAsciiLower c = true)
    (rest : List Nat) (acc : Ents) :
    arun cc T sub ((U :: lows) ++ rest) .new acc = arun cc T sub rest (.sym (U :: lows)) acc := by
  rw [List.cons_append, arun_push (pd := .new) (Pend.start_upper hU)]
  exact arun_run (f := fun x => .sym (U :: x)) (fun x c hc => Pend.push_lower (hl c hc)) [] rest acc

/-- a number: its first digit takes the pieces from `p` to `q [d]`, the others are appended -/
theorem arun_digits {p : Pend} {q : List Nat → Pend}
    (hfirst : ∀ d, isAsciiDigit d = true → p.push cc d = some (q [d]))
    (hstay : ∀ x d, isAsciiDigit d = true → (q x).push cc d = some (q (x ++ [d])))
    {ds : List Nat} (hds : ∀ c ∈ ds, isAsciiDigit c = true) (hne : ds ≠ []) (rest : List Nat) (acc : Ents) :
    arun cc T sub (ds ++ rest) p acc = arun cc T sub rest (q ds) acc := by
  obtain ⟨d, ds, rfl⟩ := List.exists_cons_of_ne_nil hne
  rw [List.cons_append, arun_push (hfirst d (hds d List.mem_cons_self))]
  exact arun_run (f := q) (fun x c hc => hstay x c (hds c (List.mem_cons_of_mem _ hc))) [d] rest acc

theorem arun_bracket (hcc : cc.AsciiOK) {w ds : List Nat} (hds : ∀ c ∈ ds, isAsciiDigit c = true) (rest : List Nat)
    (acc : Ents) : arun cc T sub (91 :: (ds ++ 93 :: rest)) (.sym w) acc = arun cc T sub rest (.isoDone w ds) acc := by
  rw [arun_push (Pend.push_lbr hcc), arun_run (f := Pend.isoOpen w) (fun x c hc => Pend.push_digit hcc (hds c hc)) [],
    arun_push Pend.push_rbr]
  rfl

/-- a flush and the start of the next term: a new start with what the flush has added -/
theorem arun_flush_new {pd : Pend} {c : Nat} {acc acc' : Ents} (hp : pd.push cc c = none)
    (hc : pd.close T sub acc = .ok acc') (rest : List Nat) :
    arun cc T sub (c :: rest) pd acc = arun cc T sub (c :: rest) .new acc' := by
  rw [arun_flush hp, hc, Res.ok_bind]
  cases hst : Pend.start c with
  | none => rw [arun_flush (pd := .new) hst]; rfl
  | some pd' => rw [arun_push (pd := .new) hst]; rfl

variable {sub' : List Nat → Res Ents} {n : Nat}

theorem Pend.close_congr (h : ∀ b : List Nat, b.length + 2 ≤ n → sub b = sub' b) {pd : Pend} (hn : pd.text.length ≤ n)
    (acc : Ents) : pd.close T sub acc = pd.close T sub' acc := by
  cases pd with
  | grpDone b | grpCount b ds =>
    simp only [Pend.text, List.length_cons, List.length_append] at hn
    simp only [Pend.close, h b (by omega)]
  | _ => rfl

theorem arun_congr (h : ∀ b : List Nat, b.length + 2 ≤ n → sub b = sub' b) :
    ∀ (rest : List Nat) (pd : Pend) (acc : Ents), pd.text.length + rest.length ≤ n →
      arun cc T sub rest pd acc = arun cc T sub' rest pd acc := by
  intro rest
  induction rest with
  | nil => exact fun pd acc hn => Pend.close_congr h (by simpa using hn) acc
  | cons c rest ih =>
    intro pd acc hn
    rw [List.length_cons] at hn
    cases hp : pd.push cc c with
    | some pd' =>
      rw [arun_push hp, arun_push hp]
      exact ih pd' acc (by rw [Pend.push_text _ hp, List.length_append, List.length_singleton]; omega)
    | none =>
      rw [arun_flush hp, arun_flush hp, ← Pend.close_congr h (by omega) acc]
      refine congrArg _ (funext fun acc' => ?_)
      cases hst : Pend.start c with
      | none => rfl
      | some pd' => exact ih pd' acc' (by rw [Pend.start_text _ hst, List.length_singleton]; omega)

end

end Chem
