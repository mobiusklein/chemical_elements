import ChemProofs.Lemmas.BrainSeries
/-
The list-polynomial arithmetic of `Spec.IsoDist` (`polyAdd`, `polyScale`, truncated `polyMul`,
`polyPow`, `aggProb`, `aggMass`) agrees, coefficient by coefficient up to the truncation degree,
with the arithmetic of power series over `Rat`: `toPS` is a ring homomorphism up to `EqUpTo deg`.
Hence the two closed forms (`aggProb_closed`, `aggMass_closed`); the entries of the two aggregated lists are named at the end
(`exProb`, `exMass`, `exCentre`: the exact variants every C03 / C09 statement speaks of).
-/
namespace Chem
open PowerSeries C03Series

theorem toPS_nil : toPS [] = 0 := by
  ext i
  -- `LinearMap.map_zero` (`RingHom.map_add` …) by name in this file: the generic `map_zero` … are slow to find their class
  rw [coeff_toPS, List.getD_nil, LinearMap.map_zero]

theorem toPS_cons (a : Rat) (p : List Rat) : toPS (a :: p) = C a + X * toPS p := by
  ext i
  cases i with
  | zero =>
    rw [coeff_toPS, LinearMap.map_add, coeff_zero_X_mul, coeff_zero_C, add_zero, List.getD_cons_zero]
  | succ n =>
    rw [coeff_toPS, LinearMap.map_add, coeff_succ_X_mul, coeff_C, if_neg n.succ_ne_zero, zero_add,
      coeff_toPS, List.getD_cons_succ]

theorem toPS_one : toPS [1] = 1 := by
  rw [toPS_cons, toPS_nil, mul_zero, add_zero, RingHom.map_one]

theorem toPS_polyAdd (p q : List Rat) : toPS (Spec.polyAdd p q) = toPS p + toPS q := by
  fun_induction Spec.polyAdd p q with
  | case1 q => rw [toPS_nil, zero_add]
  | case2 p hp => rw [toPS_nil, add_zero]
  | case3 a p b q ih =>
    rw [toPS_cons, toPS_cons, toPS_cons, ih, RingHom.map_add, mul_add, add_add_add_comm]

theorem toPS_polyScale (a : Rat) (p : List Rat) : toPS (Spec.polyScale a p) = C a * toPS p := by
  ext i
  rw [coeff_C_mul, coeff_toPS, coeff_toPS, Spec.polyScale, List.getD_eq_getElem?_getD,
    List.getD_eq_getElem?_getD, List.getElem?_map]
  cases p[i]? with
  | none => exact (mul_zero a).symm
  | some b => rfl

def EqUpTo (d : Nat) (A B : PowerSeries Rat) : Prop :=
  ∀ i, i ≤ d → PowerSeries.coeff i A = PowerSeries.coeff i B

theorem EqUpTo.refl {d : Nat} {A : PowerSeries Rat} : EqUpTo d A A := fun _ _ => rfl

theorem EqUpTo.of_eq {d : Nat} {A B : PowerSeries Rat} (h : A = B) : EqUpTo d A B :=
  h ▸ EqUpTo.refl

theorem EqUpTo.symm {d : Nat} {A B : PowerSeries Rat} (h : EqUpTo d A B) : EqUpTo d B A :=
  fun i hi => (h i hi).symm

theorem EqUpTo.trans {d : Nat} {A B C : PowerSeries Rat} (h1 : EqUpTo d A B) (h2 : EqUpTo d B C) :
    EqUpTo d A C := fun i hi => (h1 i hi).trans (h2 i hi)

theorem EqUpTo.add {d : Nat} {A A' B B' : PowerSeries Rat} (h1 : EqUpTo d A A')
    (h2 : EqUpTo d B B') : EqUpTo d (A + B) (A' + B') := by
  intro i hi
  rw [LinearMap.map_add, LinearMap.map_add, h1 i hi, h2 i hi]

theorem EqUpTo.mul {d : Nat} {A A' B B' : PowerSeries Rat} (h1 : EqUpTo d A A')
    (h2 : EqUpTo d B B') : EqUpTo d (A * B) (A' * B') := by
  intro i hi
  rw [PowerSeries.coeff_mul, PowerSeries.coeff_mul]
  apply Finset.sum_congr rfl
  intro x hx
  have hx' : x.1 + x.2 ≤ d := (Finset.mem_antidiagonal.mp hx).trans_le hi
  rw [h1 x.1 (Nat.le_of_add_right_le hx'), h2 x.2 (Nat.le_of_add_left_le hx')]

theorem EqUpTo.pow {d : Nat} {A A' : PowerSeries Rat} (h : EqUpTo d A A') (n : Nat) :
    EqUpTo d (A ^ n) (A' ^ n) := by
  induction n with
  | zero =>
    rw [pow_zero, pow_zero]
    exact EqUpTo.refl
  | succ n ih =>
    rw [pow_succ, pow_succ]
    exact ih.mul h

theorem EqUpTo.mul_left {d : Nat} (A : PowerSeries Rat) {B B' : PowerSeries Rat}
    (h : EqUpTo d B B') : EqUpTo d (A * B) (A * B') := EqUpTo.refl.mul h

theorem eqUpTo_take (deg : Nat) (l : List Rat) : EqUpTo deg (toPS (l.take (deg + 1))) (toPS l) := by
  intro i hi
  rw [coeff_toPS, coeff_toPS, List.getD_eq_getElem?_getD, List.getD_eq_getElem?_getD,
    List.getElem?_take, if_pos (Nat.lt_succ_of_le hi)]

theorem eqUpTo_polyMul (deg : Nat) (p q : List Rat) :
    EqUpTo deg (toPS (Spec.polyMul deg p q)) (toPS p * toPS q) := by
  induction p with
  | nil =>
    rw [Spec.polyMul, toPS_nil, zero_mul]
    exact EqUpTo.refl
  | cons a p ih =>
    rw [Spec.polyMul, toPS_cons a, add_mul, mul_assoc]
    refine (eqUpTo_take deg _).trans ?_
    rw [toPS_polyAdd, toPS_polyScale, toPS_cons, RingHom.map_zero, zero_add]
    exact EqUpTo.refl.add (ih.mul_left X)

theorem eqUpTo_polyPow (deg : Nat) (p : List Rat) (n : Nat) :
    EqUpTo deg (toPS (Spec.polyPow deg p n)) (toPS p ^ n) := by
  induction n with
  | zero =>
    rw [Spec.polyPow, toPS_one, pow_zero]
    exact EqUpTo.refl
  | succ n ih =>
    rw [Spec.polyPow, pow_succ']
    exact (eqUpTo_polyMul deg p _).trans (ih.mul_left _)

theorem coeff_toPS_polyPow (deg : Nat) (p : List Rat) (n i : Nat) (hi : i ≤ deg) :
    PowerSeries.coeff i (toPS (Spec.polyPow deg p n)) = PowerSeries.coeff i (toPS p ^ n) :=
  eqUpTo_polyPow deg p n i hi

/-- the `foldl` of `aggProb` (and of the `rest` factor of `aggMass`) from any accumulator -/
theorem eqUpTo_foldl_prod (deg : Nat) (one : Rat) (c : List (Elem × Nat)) (acc : List Rat) :
    EqUpTo deg
      (toPS (c.foldl (fun acc x =>
        Spec.polyMul deg acc (Spec.polyPow deg (Spec.elemPoly x.1 one false) x.2)) acc))
      (toPS acc * probSeries one c) := by
  induction c generalizing acc with
  | nil =>
    rw [List.foldl_nil, probSeries_eq_probOf, probOf_nil, mul_one]
    exact EqUpTo.refl
  | cons x c ih =>
    rw [List.foldl_cons, probSeries_eq_probOf, probOf_cons, ← mul_assoc]
    exact (ih _).trans
      (((eqUpTo_polyMul deg _ _).trans ((eqUpTo_polyPow deg _ _).mul_left _)).mul EqUpTo.refl)

theorem eqUpTo_aggProb (c : List (Elem × Nat)) (one : Rat) (deg : Nat) :
    EqUpTo deg (toPS (Spec.aggProb c one deg)) (probSeries one c) := by
  have h := eqUpTo_foldl_prod deg one c [1]
  rwa [toPS_one, one_mul] at h

theorem eqUpTo_foldl_sum {ι : Type} (deg : Nat) (step : List Rat → ι → List Rat)
    (F : ι → PowerSeries Rat)
    (hstep : ∀ acc idx, EqUpTo deg (toPS (step acc idx)) (toPS acc + F idx))
    (l : List ι) (acc : List Rat) :
    EqUpTo deg (toPS (l.foldl step acc)) (toPS acc + (l.map F).sum) := by
  induction l generalizing acc with
  | nil =>
    rw [List.foldl_nil, List.map_nil, List.sum_nil, add_zero]
    exact EqUpTo.refl
  | cons x l ih =>
    rw [List.foldl_cons, List.map_cons, List.sum_cons, ← add_assoc]
    exact (ih _).trans ((hstep acc x).add EqUpTo.refl)

/-- the summand of `aggMass` at position `idx`; `o` is the entry `c[idx]?` found there -/
noncomputable def massTerm (c : List (Elem × Nat)) (one : Rat) (idx : Nat) :
    Option (Elem × Nat) → PowerSeries Rat
  | none => 0
  | some x =>
    if x.2 = 0 then 0 else
      PowerSeries.C (x.2 : Rat) * (toPS (Spec.elemPoly x.1 one true) *
        toPS (Spec.elemPoly x.1 one false) ^ (x.2 - 1) *
        (((c.zipIdx.filter (fun y => y.2 != idx)).map (·.1)).map fun y =>
          toPS (Spec.elemPoly y.1 one false) ^ y.2).prod)

/-- one summand of `aggMass`, with any list `others` in place of "the composition without this position" -/
theorem eqUpTo_massSummand (deg : Nat) (one : Rat) (x : Elem × Nat) (others : List (Elem × Nat)) :
    EqUpTo deg
      (toPS (Spec.polyMul deg
        (Spec.polyMul deg (Spec.elemPoly x.1 one true) (Spec.polyPow deg (Spec.elemPoly x.1 one false) (x.2 - 1)))
        (Spec.aggProb others one deg)))
      (toPS (Spec.elemPoly x.1 one true) * toPS (Spec.elemPoly x.1 one false) ^ (x.2 - 1) * probSeries one others) :=
  (eqUpTo_polyMul deg _ _).trans
    (((eqUpTo_polyMul deg _ _).trans ((eqUpTo_polyPow deg _ _).mul_left _)).mul (eqUpTo_aggProb others one deg))

theorem eqUpTo_aggMass_terms (c : List (Elem × Nat)) (one : Rat) (deg : Nat) :
    EqUpTo deg (toPS (Spec.aggMass c one deg))
      (((List.range c.length).map fun idx => massTerm c one idx c[idx]?).sum) := by
  unfold Spec.aggMass
  refine (eqUpTo_foldl_sum deg _ (fun idx => massTerm c one idx c[idx]?) ?_ _ []).trans ?_
  · intro acc idx
    cases c[idx]? with
    | none =>
      dsimp only [massTerm]
      rw [add_zero]
      exact EqUpTo.refl
    | some x =>
      dsimp only [massTerm]
      by_cases hx : x.2 = 0
      · rw [if_pos (beq_iff_eq.2 hx), if_pos hx, add_zero]
        exact EqUpTo.refl
      · rw [if_neg (mt beq_iff_eq.1 hx), if_neg hx, toPS_polyAdd, toPS_polyScale]
        exact EqUpTo.refl.add (EqUpTo.mul_left _ (eqUpTo_massSummand deg one x _))
  · rw [toPS_nil, zero_add]
    exact EqUpTo.refl

/-- `aggMass` read off its definition: one summand per position of the composition -/
theorem coeff_toPS_aggMass (c : List (Elem × Nat)) (one : Rat) (deg i : Nat) (hi : i ≤ deg) :
    PowerSeries.coeff i (toPS (Spec.aggMass c one deg)) =
      PowerSeries.coeff i (((List.range c.length).map fun idx =>
        match c[idx]? with
        | none => (0 : PowerSeries Rat)
        | some x =>
          if x.2 = 0 then 0 else
            PowerSeries.C (x.2 : Rat) * (toPS (Spec.elemPoly x.1 one true) * toPS (Spec.elemPoly x.1 one false) ^ (x.2 - 1)
              * (((c.zipIdx.filter (fun y => y.2 != idx)).map (·.1)).map fun y => toPS (Spec.elemPoly y.1 one false) ^ y.2).prod)).sum) :=
  eqUpTo_aggMass_terms c one deg i hi

theorem zipIdx_filter_ne_eq_eraseIdx {α} (l : List α) (k idx : Nat) :
    (((l.zipIdx k).filter (fun y => y.2 != k + idx)).map (·.1)) = l.eraseIdx idx := by
  induction l generalizing k idx with
  | nil => rfl
  | cons a l ih =>
    rw [List.zipIdx_cons, List.filter_cons]
    cases idx with
    | zero =>
      have hall : ∀ y ∈ l.zipIdx (k + 1), (y.2 != k + 0) = true := by
        rintro ⟨x, i⟩ hy
        exact bne_iff_ne.2 (Nat.ne_of_gt (List.mem_zipIdx hy).1)
      rw [if_neg fun h => bne_iff_ne.1 h (Nat.add_zero k).symm, List.eraseIdx_cons_zero, List.filter_eq_self.mpr hall,
        List.zipIdx_map_fst]
    | succ n =>
      rw [if_pos (bne_iff_ne.2 (Nat.ne_of_lt (Nat.lt_add_of_pos_right n.succ_pos))), List.map_cons,
        List.eraseIdx_cons_succ, ← ih (k + 1) n,
        Nat.add_right_comm, Nat.add_assoc]

theorem range_map_getElem?_eq_zipIdx_map {α β} (g : Nat → Option α → β) (l : List α) :
    (List.range l.length).map (fun i => g i l[i]?) = l.zipIdx.map (fun p => g p.2 (some p.1)) := by
  apply List.ext_getElem
  · rw [List.length_map, List.length_map, List.length_range, List.length_zipIdx]
  · intro n h1 h2
    have hn : n < l.length := by
      rwa [List.length_map, List.length_range] at h1
    rw [List.getElem_map, List.getElem_map, List.getElem_range, List.getElem_zipIdx,
      List.getElem?_eq_getElem hn, Nat.zero_add]

theorem sum_massTerm (c : List (Elem × Nat)) (one : Rat) :
    ((List.range c.length).map fun idx => massTerm c one idx c[idx]?).sum = masswSeries one c := by
  rw [range_map_getElem?_eq_zipIdx_map (massTerm c one) c]
  refine congrArg List.sum (List.map_congr_left fun p _ => ?_)
  have he := zipIdx_filter_ne_eq_eraseIdx c 0 p.2
  rw [Nat.zero_add] at he
  dsimp only [massTerm]
  rw [he, ← map_natCast (C (R := ℚ))]
  split
  · next h => rw [h, Nat.cast_zero, RingHom.map_zero, zero_mul, zero_mul, zero_mul]
  · unfold probSeries P M
    ring

theorem eqUpTo_aggMass (c : List (Elem × Nat)) (one : Rat) (deg : Nat) :
    EqUpTo deg (toPS (Spec.aggMass c one deg)) (masswSeries one c) :=
  sum_massTerm c one ▸ eqUpTo_aggMass_terms c one deg

namespace C03Series

/-- entry `j ≤ d` of `Spec.aggProb` is the `j`-th coefficient of `Π Pₑ^nₑ`, the closed form the python oracle evaluates -/
theorem aggProb_closed (c : List (Elem × Nat)) (one : Rat) (d j : Nat) (hj : j ≤ d) :
    (Spec.aggProb c one d).getD j 0 = coeff j (probSeries one c) := by
  rw [← coeff_toPS]
  exact eqUpTo_aggProb c one d j hj

/-- likewise entry `j ≤ d` of `Spec.aggMass` is the `j`-th coefficient of
    `Σₑ nₑ · Pₑ^(nₑ−1) · Mₑ · Π_{e'≠e} Pₑ'^nₑ'` -/
theorem aggMass_closed (c : List (Elem × Nat)) (one : Rat) (d j : Nat) (hj : j ≤ d) :
    (Spec.aggMass c one d).getD j 0 = coeff j (masswSeries one c) := by
  rw [← coeff_toPS]
  exact eqUpTo_aggMass c one d j hj

end C03Series

/-- exact probability of the `j`-th aggregated variant (coefficient of `x^j` in `∏ Pₑ^nₑ`) -/
def exProb (c : List (Elem × Nat)) (one : Rat) (order j : Nat) : Rat :=
  (Spec.aggProb c one order).getD j 0

/-- exact probability-weighted mass of the `j`-th aggregated variant -/
def exMass (c : List (Elem × Nat)) (one : Rat) (order j : Nat) : Rat :=
  (Spec.aggMass c one order).getD j 0

/-- the normalising constant: total probability of the variants `0 ..= order` -/
def exTotal (c : List (Elem × Nat)) (one : Rat) (order : Nat) : Rat :=
  ((List.range (order + 1)).map fun j => exProb c one order j).sum

def exCentre (c : List (Elem × Nat)) (one : Rat) (order j : Nat) : Rat :=
  exMass c one order j / exProb c one order j

end Chem
