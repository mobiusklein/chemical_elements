import ChemProofs.Model.BuildRs
/-
Strict sortedness as a certificate of distinctness that is linear to evaluate: for a list in strictly increasing order
"no element twice" needs one comparison per neighbouring pair instead of one per pair.  The order on texts is `lexLt`
(the key order of `data/build.rs`), in which `harness dump-table` lists the compiled table.
-/
namespace Chem

def chainB {α} (r : α → α → Bool) : List α → Bool
  | a :: b :: l => r a b && chainB r (b :: l)
  | _ => true

theorem pairwise_of_chainB {α} {r : α → α → Bool} (trans : ∀ a b c, r a b = true → r b c = true → r a c = true) :
    ∀ l, chainB r l = true → l.Pairwise (fun a b => r a b = true) := fun l => by
  induction l with
  | nil => exact fun _ => .nil
  | cons a l ih =>
    cases l with
    | nil => exact fun _ => .cons (fun _ h => nomatch h) .nil
    | cons b l =>
      intro h
      simp only [chainB, Bool.and_eq_true] at h
      have ih := ih h.2
      refine .cons (fun c hc => ?_) ih
      rcases List.mem_cons.1 hc with rfl | hc
      · exact h.1
      · exact trans a b c h.1 (List.rel_of_pairwise_cons ih hc)

theorem lexLt_iff : ∀ a b : List Nat, lexLt a b = true ↔ a < b
  | [], [] => by simp [lexLt]
  | [], _ :: _ => by simp [lexLt]
  | _ :: _, [] => by simp [lexLt]
  | x :: a, y :: b => by
    rw [lexLt, List.cons_lt_cons_iff]
    split
    · simp [*]
    · split
      · simp only [Bool.false_eq_true, false_iff]
        omega
      · rw [lexLt_iff a b]
        have : x = y := by omega
        simp [this]

theorem lexLt_irrefl (s : List Nat) : lexLt s s = false :=
  Bool.eq_false_iff.2 fun h => List.lt_irrefl s ((lexLt_iff s s).1 h)

theorem lexLt_trans (a b c : List Nat) (h1 : lexLt a b = true) (h2 : lexLt b c = true) : lexLt a c = true :=
  (lexLt_iff a c).2 (List.lt_trans ((lexLt_iff a b).1 h1) ((lexLt_iff b c).1 h2))

theorem lexLt_connected (a b : List Nat) (h1 : lexLt a b = false) (h2 : lexLt b a = false) : a = b :=
  List.le_antisymm (fun h => Bool.eq_false_iff.1 h2 ((lexLt_iff b a).2 h))
    (fun h => Bool.eq_false_iff.1 h1 ((lexLt_iff a b).2 h))

theorem nodup_of_sorted (l : List (List Nat)) (h : chainB lexLt l = true) : l.Nodup :=
  (pairwise_of_chainB lexLt_trans l h).imp fun {a b} hab e => by
    rw [e, lexLt_irrefl] at hab
    cases hab

/-! ### counting the distinct elements of a list in which equal elements stand next to each other (a sorted list)

The number of positions holding the first occurrence of their element (`firsts`, quadratic to evaluate) is the number of
runs, which one pass computes.  This serves one statement, `Inst.goodKeys_distinct` (`Inst/C07.lean`): the 442 keys the
display round trip is instantiated at are 408 distinct keys, a count the documents cite and whose statement is written
with `idxOf`. -/
variable {α : Type} [BEq α] [LawfulBEq α]

def firsts (d : α) (l : List α) : List Nat :=
  (List.range l.length).filter fun j => decide (l.idxOf (l.getD j d) = j)

theorem firsts_concat (d a : α) (l : List α) :
    firsts d (l ++ [a]) = firsts d l ++ if a ∈ l then [] else [l.length] := by
  unfold firsts
  rw [List.length_append, List.length_singleton, List.range_succ, List.filter_append]
  congr 1
  · refine List.filter_congr fun j hj => ?_
    have hj : j < l.length := List.mem_range.1 hj
    have hx : (l ++ [a]).getD j d = l[j] := by simp [List.getD_eq_getElem?_getD, List.getElem?_append_left hj, hj]
    have hy : l.getD j d = l[j] := by simp [List.getD_eq_getElem?_getD, hj]
    rw [hx, hy, List.idxOf_append, if_pos (List.getElem_mem hj)]
  · have hx : (l ++ [a]).getD l.length d = a := by simp [List.getD_eq_getElem?_getD]
    rw [List.filter_cons, List.filter_nil, hx, List.idxOf_append]
    by_cases h : a ∈ l
    · have := List.idxOf_lt_length_of_mem h
      rw [if_pos h, if_pos h, if_neg (by simpa using Nat.ne_of_lt this)]
    · simp [h]

def runs : List α → Nat
  | a :: b :: l => (if a == b then 0 else 1) + runs (b :: l)
  | [_] => 1
  | [] => 0

/-- in a list that descends weakly along a strict order `lt`, the first occurrences (counted from the far end) are the
    beginnings of runs -/
theorem length_firsts_reverse (lt : α → α → Bool) (irrefl : ∀ a, lt a a = false)
    (trans : ∀ a b c, lt a b = true → lt b c = true → lt a c = true) (d : α) (r : List α)
    (h : chainB (fun a b => a == b || lt b a) r = true) : (firsts d r.reverse).length = runs r := by
  induction r with
  | nil => rfl
  | cons a r ih =>
    cases r with
    | nil => simp [firsts, runs]
    | cons b r =>
      have hp := pairwise_of_chainB (r := fun a b => a == b || lt b a) (fun x y z hxy hyz => by
        simp only [Bool.or_eq_true, beq_iff_eq] at hxy hyz ⊢
        rcases hxy with rfl | hxy
        · exact hyz
        · rcases hyz with rfl | hyz
          · exact Or.inr hxy
          · exact Or.inr (trans z y x hyz hxy)) _ h
      simp only [chainB, Bool.and_eq_true] at h
      specialize ih h.2
      have hmem : a ∈ (b :: r).reverse ↔ a = b := by
        rw [List.mem_reverse]
        refine ⟨fun hm => ?_, fun e => e ▸ List.mem_cons_self⟩
        refine Classical.byContradiction fun e => ?_
        have hba : lt b a = true := by simpa [e] using h.1
        rcases List.mem_cons.1 hm with e' | hm
        · exact e e'
        · have := List.rel_of_pairwise_cons (List.pairwise_cons.1 hp).2 hm
          simp only [Bool.or_eq_true, beq_iff_eq] at this
          rcases this with e' | hab
          · exact e e'.symm
          · exact absurd (trans a b a hab hba) (by simp [irrefl])
      rw [List.reverse_cons, firsts_concat, List.length_append, ih, runs]
      cases hab : a == b
      · rw [if_neg (mt hmem.1 (by simpa using hab))]
        simp
        omega
      · rw [if_pos (hmem.2 (by simpa using hab))]
        simp

end Chem
