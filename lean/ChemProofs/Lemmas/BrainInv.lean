import ChemProofs.Model.Brain
/-
The two invariants of the BRAIN recurrences, stated without any library: the list-level lemmas about
them (Lemmas/BrainLists.lean) need core Lean only.  Definitions only, as in Lemmas/BrainDefs.lean.
-/
namespace Chem

/-- every entry of `ps` is what `nextPowerSum` computes from the entries before it -/
def PsInv (esp ps : DVec) : Prop := ∀ k, k < ps.length → ps.getD k 0 = nextPowerSum esp ps k

/-- every entry of `esp` is what `nextEsp` computes from the entries before it -/
def EspInv (ps esp : DVec) (order : Int) : Prop :=
  ∀ k, k < esp.length → esp.getD k 0 = nextEsp esp ps k order

end Chem
