import ChemProofs.Lemmas.Res
import ChemProofs.Lemmas.Table
import ChemProofs.Lemmas.BrainLists
/-
The canonical form of the BRAIN constants.  Whatever sequence of `update`s an entry went through,
its `esp` is the initial coefficient vector padded with zeros and its `ps` the canonical Newton
power sums `psN` of the same length (`PolyCanon`, `CanonExt`); `PolyParams.newton` and `Phi.update` move
along this family (`newton_canon`, `CanonExt.update`), and what `Phi.fromElement` builds for any element whatsoever
is its first member (`fromElement_shape`: each half is canonical by `polyFromElement_shape`, and the two halves have one
length because the key walk takes the same branches with and without masses, `isoCoefLoop_len`).
Last, where the entries come from: `populate` folds `populateStep` over the composition, and whatever that fold has
collected is, key by key, `Phi.fromElement` of an element of the composition (`FromComp`, `populate_fromComp`).
Core Lean only.
-/
namespace Chem

/-- the `n` first Newton power sums of `esp` (reading `esp` beyond its end as 0) -/
def psN (esp : DVec) : Nat → DVec
  | 0 => []
  | n + 1 => psN esp n ++ [nextPowerSum esp (psN esp n) n]

/-- entry `k` of `psN esp n` for every `n > k` (`psN_getD`): what a canonical entry holds at `k` does not depend on how
    far it was extended -/
def psAt (esp : DVec) (k : Nat) : Rat := nextPowerSum esp (psN esp k) k

theorem psN_length (esp : DVec) (n : Nat) : (psN esp n).length = n := by
  induction n with
  | zero => rfl
  | succ n ih => simp [psN, ih]

theorem psN_eq_map (esp : DVec) (n : Nat) : psN esp n = (List.range n).map (psAt esp) := by
  induction n with
  | zero => rfl
  | succ n ih =>
    rw [List.range_succ, List.map_append, ← ih]
    rfl

theorem psN_take (esp : DVec) {n m : Nat} (h : n ≤ m) : (psN esp m).take n = psN esp n := by
  rw [psN_eq_map, psN_eq_map, ← List.map_take, List.take_range, Nat.min_eq_left h]

theorem psN_getD (esp : DVec) {n k : Nat} (h : k < n) : (psN esp n).getD k 0 = psAt esp k := by
  rw [psN_eq_map, getD_range_map h]

theorem nextPowerSum_pad (esp : DVec) (m : Nat) (ps : DVec) (k : Nat) :
    nextPowerSum (esp ++ List.replicate m 0) ps k = nextPowerSum esp ps k :=
  nextPowerSum_congr_esp _ _ ps k (getD_append_replicate_zero esp m)

theorem psN_inv (esp : DVec) : ∀ n, PsInv esp (psN esp n)
  | 0 => PsInv_nil esp
  | n + 1 => by
    have := PsInv_snoc (psN_inv esp n)
    rwa [psN_length] at this

/-- `esp` may be `esp0` padded: only `nextPowerSum` reads it -/
theorem updatePowerSum_psN (esp0 esp : DVec)
    (hx : ∀ ps k, nextPowerSum esp ps k = nextPowerSum esp0 ps k) (fuel n : Nat)
    (hle : n ≤ esp.length) (hf : esp.length - n ≤ fuel) :
    updatePowerSum esp fuel (psN esp0 n) = psN esp0 esp.length := by
  induction fuel generalizing n with
  | zero => rw [updatePowerSum, Nat.le_antisymm hle (Nat.le_of_sub_eq_zero (Nat.le_zero.mp hf))]
  | succ fuel ih =>
    rw [updatePowerSum, psN_length]
    split
    · next h =>
      rw [hx]
      exact ih (n + 1) h (by rw [Nat.sub_add_eq]; exact Nat.sub_le_of_le_add hf)
    · next h => rw [Nat.le_antisymm hle (Nat.not_lt.mp h)]

/-- `updatePowerSum` extends a canonical prefix to the canonical vector of the length of `esp`,
    in however many steps -/
theorem updatePowerSum_canon (esp0 esp : DVec)
    (hx : ∀ ps k, nextPowerSum esp ps k = nextPowerSum esp0 ps k) :
    ∀ (fuel : Nat) (ps : DVec), ps = psN esp0 ps.length → ps.length ≤ esp.length →
      esp.length - ps.length ≤ fuel → updatePowerSum esp fuel ps = psN esp0 esp.length := by
  intro fuel ps hps hle hf
  rw [hps]
  exact updatePowerSum_psN esp0 esp hx fuel ps.length hle hf

theorem updatePowerSum_nil (esp : DVec) {fuel : Nat} (h : esp.length ≤ fuel) :
    updatePowerSum esp fuel [] = psN esp esp.length :=
  updatePowerSum_psN esp esp (fun _ _ => rfl) fuel 0 (Nat.zero_le _) (by simpa using h)

def PolyCanon (p0 p : PolyParams) : Prop :=
  (∃ m, p.esp = p0.esp ++ List.replicate m 0) ∧ p.ps = psN p0.esp p.esp.length

theorem PolyCanon.ps_length {p0 p : PolyParams} (h : PolyCanon p0 p) : p.ps.length = p.esp.length := by
  rw [h.2, psN_length]

theorem newton_of_le (p : PolyParams) (o : Int) (h : p.ps.length ≤ p.esp.length) :
    p.newton o = { p with ps := updatePowerSum p.esp (p.esp.length - p.ps.length) p.ps } := by
  unfold PolyParams.newton
  by_cases h1 : p.ps.length < p.esp.length
  · rw [if_pos h1]
  · rw [if_neg h1, if_neg (Nat.not_lt.mpr h), Nat.sub_eq_zero_of_le (Nat.not_lt.mp h1)]
    rfl

theorem newton_canon {p0 p : PolyParams} (h : PolyCanon p0 p) (pad : Nat) (o : Int) :
    PolyCanon p0 (PolyParams.newton { p with esp := p.esp ++ List.replicate pad 0 } o) ∧
    (PolyParams.newton { p with esp := p.esp ++ List.replicate pad 0 } o).esp
      = p.esp ++ List.replicate pad 0 := by
  have hlen := h.ps_length
  obtain ⟨⟨m, hm⟩, hps⟩ := h
  have hle : p.ps.length ≤ (p.esp ++ List.replicate pad 0).length := by
    rw [hlen, List.length_append]
    omega
  have hesp : p.esp ++ List.replicate pad 0 = p0.esp ++ List.replicate (m + pad) 0 := by
    rw [hm, List.append_assoc, List.replicate_append_replicate]
  rw [newton_of_le _ o hle]
  refine ⟨⟨⟨m + pad, hesp⟩, ?_⟩, rfl⟩
  rw [hps]
  exact updatePowerSum_psN p0.esp _ (fun ps k => by rw [hesp, nextPowerSum_pad]) _ _
    (by rw [← hlen]; exact hle) (by rw [psN_length]; exact Nat.le_refl _)

def CanonExt (φ0 φ : Phi) : Prop :=
  PolyCanon φ0.elem φ.elem ∧ PolyCanon φ0.mass φ.mass ∧ φ.mass.esp.length = φ.elem.esp.length

theorem update_of_lt {φ : Phi} {o : Int} (h : o < φ.order) : φ.update o = φ := by
  unfold Phi.update
  rw [if_pos h]

theorem CanonExt.update {φ0 φ : Phi} (h : CanonExt φ0 φ) {o : Int} (ho : ¬ o < φ.order) :
    CanonExt φ0 (φ.update o) ∧
      ((φ.update o).elem.esp.length : Int) = φ.elem.esp.length + (o + 1 - φ.order) ∧
      (φ.update o).order = ((φ.update o).elem.esp.length : Int) := by
  obtain ⟨he, hm, hlen⟩ := h
  unfold Phi.update
  rw [if_neg ho]
  dsimp only
  have ne := newton_canon he (o + 1 - φ.order).toNat
    (((φ.elem.esp ++ List.replicate (o + 1 - φ.order).toNat (0 : Rat)).length : Nat) : Int)
  have nm := newton_canon hm (o + 1 - φ.order).toNat
    (((φ.elem.esp ++ List.replicate (o + 1 - φ.order).toNat (0 : Rat)).length : Nat) : Int)
  refine ⟨⟨ne.1, nm.1, ?_⟩, ?_, ?_⟩
  · rw [ne.2, nm.2, List.length_append, List.length_append, hlen]
  · rw [ne.2, List.length_append, List.length_replicate, Int.natCast_add, Int.toNat_of_nonneg (by omega)]
  · rw [ne.2]

theorem newton_init (esp : DVec) (o : Int) : PolyParams.newton ⟨esp, []⟩ o = ⟨esp, psN esp esp.length⟩ := by
  rw [newton_of_le _ o (Nat.zero_le _)]
  exact congrArg (PolyParams.mk esp) (updatePowerSum_nil esp (Nat.le_refl _))

theorem isoCoefLoop_len (e : Elem) (one : Rat) (l : List Nat) (acc acc' : DVec)
    (h : acc.length = acc'.length) :
    ResRel (fun a b => a.length = b.length) (isoCoefLoop e false one l acc)
      (isoCoefLoop e true one l acc') := by
  induction l generalizing acc acc' with
  | nil => exact h
  | cons i rest ih =>
    -- branch by branch as `isoCoefLoop` is written; the branch taken does not depend on `withMass`
    unfold isoCoefLoop
    dsimp only
    by_cases hk : (e.isos.length : Int) + (e.elemNum : Int) - (i : Int) - 1 < 0
    · rw [if_pos hk, if_pos hk]
      trivial
    · rw [if_neg hk, if_neg hk]
      cases e.iso? ((e.isos.length : Int) + (e.elemNum : Int) - (i : Int) - 1).toNat with
      | none => exact ih acc acc' h
      | some iso =>
        dsimp only
        rw [h]
        by_cases h1 : acc'.length < (e.maxShift - iso.shift).toNat
        · rw [if_pos h1, if_pos h1]
          exact ih _ _ (by simp [h])
        · rw [if_neg h1, if_neg h1]
          by_cases h2 : (acc'.length == (e.maxShift - iso.shift).toNat) = true
          · rw [if_pos h2, if_pos h2]
            exact ih _ _ (by simp [h])
          · rw [if_neg h2, if_neg h2]
            trivial

theorem vietes_length {c esp : DVec} (h : vietes c = .ok esp) : esp.length = c.length := by
  unfold vietes at h
  split at h
  · cases h
  · cases h
    rw [List.length_map, List.length_range]

theorem polyFromElement_shape {e : Elem} {b : Bool} {one : Rat} {p : PolyParams}
    (h : PolyParams.fromElement e b one = .ok p) :
    PolyCanon p p ∧ ∃ acc, isotopicCoefficients e b one = .ok acc ∧ p.esp.length = acc.length := by
  unfold PolyParams.fromElement at h
  obtain ⟨acc, hacc, h⟩ := Res.bind_eq_ok.mp h
  obtain ⟨esp, hesp, h⟩ := Res.bind_eq_ok.mp h
  rw [newton_init] at h
  cases h
  exact ⟨⟨⟨0, by simp⟩, rfl⟩, acc, hacc, vietes_length hesp⟩

theorem fromElement_shape {e : Elem} {one : Rat} {φ0 : Phi} (h : Phi.fromElement e one = .ok φ0) : CanonExt φ0 φ0 := by
  unfold Phi.fromElement at h
  obtain ⟨ec, hec, h⟩ := Res.bind_eq_ok.mp h
  obtain ⟨mc, hmc, h⟩ := Res.bind_eq_ok.mp h
  cases h
  obtain ⟨pe, a1, h1, l1⟩ := polyFromElement_shape hec
  obtain ⟨pm, a2, h2, l2⟩ := polyFromElement_shape hmc
  have := isoCoefLoop_len e one (List.range ((e.maxShift - e.minShift).toNat + 1)) [] [] rfl
  unfold isotopicCoefficients at h1 h2
  rw [h1, h2] at this
  simp only [ResRel] at this
  exact ⟨pe, pm, l2.trans (this.symm.trans l1.symm)⟩

theorem add_of_find_none {c : IsoConstants} {e : Elem} {one : Rat}
    (h : c.consts.find? (fun x => x.1 == e.sym) = none) :
    c.add e one =
      (Phi.fromElement e one).bind fun phi => .ok { c with consts := c.consts ++ [(e.sym, phi)] } := by
  unfold IsoConstants.add IsoConstants.get
  rw [h]
  rfl

theorem add_of_find_some {c : IsoConstants} {e : Elem} {one : Rat} {p : Sym × Phi}
    (h : c.consts.find? (fun x => x.1 == e.sym) = some p) : c.add e one = .ok c := by
  unfold IsoConstants.add IsoConstants.get
  rw [h]
  rfl

/-- one entry of the composition in `populate` -/
def populateStep (K : BrainConsts) (acc : Res IsoConstants) (x : Elem × Int) : Res IsoConstants :=
  acc.bind fun cs => cs.add x.1 K.one

def FromComp (K : BrainConsts) (c : BComp) (o : Int) (a : IsoConstants) : Prop :=
  a.order = o ∧ ∀ p ∈ a.consts, ∃ x ∈ c, x.1.sym = p.1 ∧ Phi.fromElement x.1 K.one = .ok p.2

theorem populate_fromComp {K : BrainConsts} {c : BComp} {o : Int} {a : IsoConstants}
    (h : c.foldl (populateStep K) (.ok ⟨[], o⟩) = .ok a) : FromComp K c o a := by
  refine List.foldlRecOn (motive := fun r => ∀ a, r = Res.ok a → FromComp K c o a) c _ ?_ ?_ a h
  · intro a h
    cases h
    exact ⟨rfl, fun p hp => nomatch hp⟩
  · intro r hr x hx a' h'
    obtain ⟨a, rfl, h⟩ := Res.bind_eq_ok.mp h'
    obtain ⟨ho, hsrc⟩ := hr a rfl
    cases hf : a.consts.find? (fun p => p.1 == x.1.sym) with
    | some p =>
      rw [add_of_find_some hf] at h
      cases h
      exact ⟨ho, hsrc⟩
    | none =>
      rw [add_of_find_none hf] at h
      obtain ⟨φ0, h0, h⟩ := Res.bind_eq_ok.mp h
      cases h
      refine ⟨ho, fun p hp => ?_⟩
      rcases List.mem_append.mp hp with hp | hp
      · exact hsrc p hp
      · rw [List.mem_singleton.mp hp]
        exact ⟨x, hx, rfl, h0⟩

end Chem
