import ChemProofs.Lemmas.BrainInv
import ChemProofs.Lemmas.Res
/-
Core Lean only, in three parts.  Generic `getD` lemmas on lists of rationals (`list_eq_of_getD`: lists of one length with
the same entries are equal).  One step of each of the two BRAIN recurrences: `nextPowerSum` and `nextEsp` read only the
entries before the one they compute (`nextPowerSum_append`, `nextEsp_append`), so the invariants `PsInv` / `EspInv` (every
entry is what the recurrence computes from the entries before it) survive appending the next entry (`PsInv_snoc`,
`EspInv_snoc`, both by `snoc_of_rec`); the loop `updateEsp` keeps `EspInv` and reaches the length of `ps`
(`updateEsp_inv`, `updateEsp_length`).  The loop `updatePowerSum` does not occur here: what it computes is said from a
canonical start, `updatePowerSum_psN` in Lemmas/BrainCanon.lean.  Last, the list lemmas of the model's `mapRes` / `sumRes`.
-/
namespace Chem

theorem getD_append_left' {l t : List Rat} {i : Nat} (h : i < l.length) :
    (l ++ t).getD i 0 = l.getD i 0 := by
  simp only [List.getD_eq_getElem?_getD, List.getElem?_append_left h]

theorem getD_append_replicate_zero (l : List Rat) (m i : Nat) :
    (l ++ List.replicate m (0 : Rat)).getD i 0 = l.getD i 0 := by
  simp only [List.getD_eq_getElem?_getD]
  by_cases h : i < l.length
  · rw [List.getElem?_append_left h]
  · rw [List.getElem?_append_right (Nat.not_lt.mp h), List.getElem?_eq_none (Nat.not_lt.mp h),
      List.getElem?_replicate]
    split <;> rfl

theorem getD_append_self_length (l : List Rat) (a : Rat) : (l ++ [a]).getD l.length 0 = a := by
  simp only [List.getD_eq_getElem?_getD, List.getElem?_append_right (Nat.le_refl _), Nat.sub_self,
    List.getElem?_cons_zero, Option.getD_some]

theorem list_eq_of_getD {a b : List Rat} (hl : a.length = b.length)
    (h : ∀ i, i < a.length → a.getD i 0 = b.getD i 0) : a = b := by
  apply List.ext_getElem hl
  intro i h1 h2
  have := h i h1
  rwa [List.getD_eq_getElem?_getD, List.getD_eq_getElem?_getD, List.getElem?_eq_getElem h1, List.getElem?_eq_getElem h2] at this

theorem getD_range_map {g : Nat → Rat} {n i : Nat} (hi : i < n) : ((List.range n).map g).getD i 0 = g i := by
  rw [List.getD_eq_getElem?_getD, List.getElem?_map, List.getElem?_range hi]
  rfl

theorem eq_range_map_of_getD {l : List Rat} {n : Nat} {g : Nat → Rat} (hlen : l.length = n)
    (h : ∀ i, i < n → l.getD i 0 = g i) : l = (List.range n).map g :=
  list_eq_of_getD (by rw [List.length_map, List.length_range, hlen]) fun i hi => by
    rw [h i (hlen ▸ hi), getD_range_map (hlen ▸ hi)]

theorem snoc_of_rec {f : DVec → Nat → Rat} (happ : ∀ l t k, k ≤ l.length → f (l ++ t) k = f l k) {l : DVec}
    (h : ∀ k, k < l.length → l.getD k 0 = f l k) (k : Nat) (hk : k < (l ++ [f l l.length]).length) :
    (l ++ [f l l.length]).getD k 0 = f (l ++ [f l l.length]) k := by
  rw [List.length_append, List.length_singleton] at hk
  by_cases h' : k < l.length
  · rw [getD_append_left' h', happ _ _ _ (Nat.le_of_lt h')]
    exact h k h'
  · obtain rfl : k = l.length := Nat.le_antisymm (Nat.le_of_lt_succ hk) (Nat.not_lt.mp h')
    rw [getD_append_self_length, happ _ _ _ (Nat.le_refl _)]

theorem nextPowerSum_append (esp ps t : DVec) (k : Nat) (hk : k ≤ ps.length) :
    nextPowerSum esp (ps ++ t) k = nextPowerSum esp ps k := by
  unfold nextPowerSum
  congr 3
  apply List.map_congr_left
  intro j0 hj
  simp only
  rw [getD_append_left' (Nat.lt_of_lt_of_le (Nat.sub_lt_of_pos_le (Nat.succ_pos _)
    (Nat.le_of_lt (Nat.add_lt_of_lt_sub (List.mem_range.mp hj)))) hk)]

theorem nextPowerSum_congr_esp (esp esp' ps : DVec) (k : Nat)
    (h : ∀ i, esp.getD i 0 = esp'.getD i 0) : nextPowerSum esp ps k = nextPowerSum esp' ps k := by
  unfold nextPowerSum
  simp only [h]

theorem PsInv_nil (esp : DVec) : PsInv esp [] :=
  fun _ hk => absurd hk (Nat.not_lt_zero _)

theorem PsInv_congr_esp {esp esp' ps : DVec} (h : ∀ i, esp.getD i 0 = esp'.getD i 0)
    (hp : PsInv esp ps) : PsInv esp' ps := by
  intro k hk
  rw [hp k hk, nextPowerSum_congr_esp esp esp' ps k h]

theorem PsInv_snoc {esp ps : DVec} (hp : PsInv esp ps) :
    PsInv esp (ps ++ [nextPowerSum esp ps ps.length]) :=
  snoc_of_rec (nextPowerSum_append esp) hp

theorem nextEsp_append (esp ps t : DVec) (k : Nat) (order : Int) (hk : k ≤ esp.length) :
    nextEsp (esp ++ t) ps k order = nextEsp esp ps k order := by
  unfold nextEsp
  congr 4
  apply List.map_congr_left
  intro j0 hj
  simp only
  rw [getD_append_left'
    (Nat.lt_of_lt_of_le (Nat.sub_lt_of_pos_le (Nat.succ_pos _) (List.mem_range.mp hj)) hk)]

theorem EspInv_nil (ps : DVec) (order : Int) : EspInv ps [] order :=
  fun _ hk => absurd hk (Nat.not_lt_zero _)

theorem EspInv_snoc {ps esp : DVec} {order : Int} (hp : EspInv ps esp order) :
    EspInv ps (esp ++ [nextEsp esp ps esp.length order]) order :=
  snoc_of_rec (f := fun l k => nextEsp l ps k order) (fun l t k => nextEsp_append l ps t k order) hp

theorem updateEsp_inv (ps : DVec) (order : Int) (fuel : Nat) (esp : DVec) (hp : EspInv ps esp order) :
    EspInv ps (updateEsp ps order fuel esp) order := by
  fun_induction updateEsp ps order fuel esp with
  | case1 | case3 => exact hp
  | case2 fuel esp _ ih => exact ih (EspInv_snoc hp)

theorem updateEsp_length (ps : DVec) (order : Int) (fuel : Nat) (esp : DVec)
    (h1 : esp.length ≤ ps.length) (h2 : ps.length - esp.length ≤ fuel) :
    (updateEsp ps order fuel esp).length = ps.length := by
  fun_induction updateEsp ps order fuel esp with
  | case1 => exact Nat.le_antisymm h1 (Nat.le_of_sub_eq_zero (Nat.le_zero.mp h2))
  | case2 fuel esp h ih =>
    rw [List.length_append, List.length_singleton] at ih
    exact ih h (by rw [Nat.sub_add_eq]; exact Nat.sub_le_of_le_add h2)
  | case3 fuel esp h => exact Nat.le_antisymm h1 (Nat.not_lt.mp h)

theorem espOfPs_eq (ps : DVec) (V : Int) : espOfPs ps V = updateEsp ps V ps.length [] := by
  unfold espOfPs PolyParams.newton
  simp only [List.length_nil, Nat.not_lt_zero, if_false, Nat.sub_zero]
  split
  · rfl
  · next h =>
    rw [List.length_eq_zero_iff.mp (Nat.eq_zero_of_not_pos h)]
    rfl

theorem espOfPs_length (ps : DVec) (V : Int) : (espOfPs ps V).length = ps.length := by
  rw [espOfPs_eq]
  exact updateEsp_length ps V _ [] (Nat.zero_le _) (Nat.le_refl _)

theorem espOfPs_inv (ps : DVec) (V : Int) : EspInv ps (espOfPs ps V) V := by
  rw [espOfPs_eq]
  exact updateEsp_inv ps V _ [] (EspInv_nil ps V)

theorem mapRes_map_ok {α β γ} (F : β → Res γ) (f : α → β) (g : α → γ) (l : List α)
    (h : ∀ x ∈ l, F (f x) = .ok (g x)) : mapRes F (l.map f) = .ok (l.map g) := by
  induction l with
  | nil => rfl
  | cons x l ih =>
    rw [List.map_cons]
    unfold mapRes
    rw [h x (List.mem_cons_self), ih fun y hy => h y (List.mem_cons_of_mem _ hy)]
    rfl

theorem mapRes_of_forall_ok {α β} (f : α → Res β) (g : α → β) : ∀ (l : List α),
    (∀ x ∈ l, f x = .ok (g x)) → mapRes f l = .ok (l.map g) := by
  intro l h
  have := mapRes_map_ok f id g l h
  rwa [List.map_id] at this

theorem mapRes_congr {α β} {f g : α → Res β} {l : List α} (h : ∀ x ∈ l, f x = g x) :
    mapRes f l = mapRes g l := by
  induction l with
  | nil => rfl
  | cons x xs ih =>
    simp only [mapRes]
    rw [h x (List.mem_cons_self), ih fun y hy => h y (List.mem_cons_of_mem _ hy)]

theorem mapRes_length {α β} {f : α → Res β} {l : List α} {ys : List β} (h : mapRes f l = .ok ys) :
    ys.length = l.length := by
  induction l generalizing ys with
  | nil =>
    simp only [mapRes] at h
    cases h
    rfl
  | cons x xs ih =>
    simp only [mapRes] at h
    obtain ⟨y, _, h⟩ := Res.bind_eq_ok.mp h
    obtain ⟨ys', h', h⟩ := Res.bind_eq_ok.mp h
    cases h
    simp [ih h']

theorem mapRes_ok {α β} {f : α → Res β} : ∀ {l : List α} {ys : List β}, mapRes f l = .ok ys →
    ∀ x ∈ l, ∃ y, f x = .ok y := by
  intro l
  induction l with
  | nil => intro _ _ x hx; cases hx
  | cons a as ih =>
    intro ys h x hx
    simp only [mapRes] at h
    obtain ⟨y, hy, h⟩ := Res.bind_eq_ok.mp h
    obtain ⟨ys', hys', _⟩ := Res.bind_eq_ok.mp h
    rcases List.mem_cons.mp hx with rfl | hx
    · exact ⟨y, hy⟩
    · exact ih hys' x hx

theorem sumRes_map_ok_aux {α} (g : α → Rat) (l : List α) (a : Rat) :
    (l.map fun x => Res.ok (g x)).foldl
      (fun acc x => acc.bind fun a => x.bind fun b => Res.ok (a + b)) (Res.ok a) =
      Res.ok (a + (l.map g).sum) := by
  induction l generalizing a with
  | nil => rw [List.map_nil, List.foldl_nil, List.map_nil, List.sum_nil, Rat.add_zero]
  | cons x l ih =>
    rw [List.map_cons, List.foldl_cons, List.map_cons, List.sum_cons, ← Rat.add_assoc]
    exact ih (a + g x)

theorem sumRes_map_ok {α} (g : α → Rat) (l : List α) :
    sumRes (l.map fun x => Res.ok (g x)) = .ok (l.map g).sum := by
  unfold sumRes
  rw [sumRes_map_ok_aux g l 0, Rat.zero_add]

theorem sumRes_eq_ok {l : List (Res Rat)} {v : Rat} (h : sumRes l = .ok v) : ∀ x ∈ l, ∃ b, x = .ok b := by
  suffices ∀ (l : List (Res Rat)) (init : Res Rat) (v : Rat),
      l.foldl (fun acc x => acc.bind fun a => x.bind fun b => .ok (a + b)) init = .ok v →
        (∃ a, init = .ok a) ∧ ∀ x ∈ l, ∃ b, x = .ok b from (this l _ v h).2
  intro l
  induction l with
  | nil =>
    intro init v h
    exact ⟨⟨v, h⟩, fun x hx => by cases hx⟩
  | cons y ys ih =>
    intro init v h
    simp only [List.foldl_cons] at h
    obtain ⟨⟨a', ha'⟩, hys⟩ := ih _ _ h
    obtain ⟨a, ha, h2⟩ := Res.bind_eq_ok.mp ha'
    obtain ⟨b, hb, _⟩ := Res.bind_eq_ok.mp h2
    refine ⟨⟨a, ha⟩, fun x hx => ?_⟩
    rcases List.mem_cons.mp hx with rfl | hx
    · exact ⟨b, hb⟩
    · exact hys x hx

end Chem
