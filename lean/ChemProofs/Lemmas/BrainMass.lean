import ChemProofs.Lemmas.BrainProb
import ChemProofs.Lemmas.Table
/-
The centre-mass vector.  For entry `x` of the composition `phi_mass_for` yields the power sums
of `∏ P_y^{n_y}` with one factor `Pₓ` replaced by `Mₓ` (`Gmass`), `espOfPs` its normalised
coefficients; summed over the entries with weights `nₓ · mostMassₓ` this is `κ ·` the mass-weighted
series (`masswOf_eq_mul_sum`: the logarithmic derivative of a product), i.e. `κ · Spec.aggMass`.
-/
namespace Chem
open PowerSeries C03Series

/-- logarithmic-derivative form of the mass-weighted series: where every `Pf e` is invertible,
    "one factor `Pf e` replaced by `Mf e`" is `probOf · (Pf e)⁻¹ · Mf e` -/
theorem C03Series.masswOf_eq_mul_sum (Pf Mf : Elem → ℚ⟦X⟧) (c : List (Elem × Nat))
    (h : ∀ x ∈ c, Pf x.1 * (Pf x.1)⁻¹ = 1) :
    masswOf Pf Mf c =
      probOf Pf c * (c.map fun x => (x.2 : ℚ⟦X⟧) * ((Pf x.1)⁻¹ * Mf x.1)).sum := by
  induction c with
  | nil => rw [masswOf_nil, List.map_nil, List.sum_nil, mul_zero]
  | cons x c ih =>
    rw [masswOf_cons, probOf_cons, List.map_cons, List.sum_cons,
      ih fun y hy => h y (List.mem_cons_of_mem _ hy)]
    linear_combination
      (-(x.2 : ℚ⟦X⟧) * Pf x.1 ^ (x.2 - 1) * Mf x.1 * probOf Pf c) * h x List.mem_cons_self +
        ((Pf x.1)⁻¹ * Mf x.1 * probOf Pf c) * natCast_mul_pow_pred (Pf x.1) x.2

/-- `List.sum_map_ite_eq` on a duplicate-free list (the `BEq` instance named is the one that
    lemma's `count` is stated with) -/
theorem sum_map_ite_eq_of_nodup {α M} [DecidableEq α] [AddCommGroup M] (f g : α → M) {l : List α}
    {a : α} (hn : l.Nodup) (ha : a ∈ l) :
    (l.map fun x => if x = a then f x else g x).sum = f a - g a + (l.map g).sum := by
  rw [List.sum_map_ite_eq, @List.count_eq_one_of_mem _ instBEqOfDecidableEq _ _ _ hn ha, one_smul]

theorem find?_map_key {α β} (key : α → Sym) (val : α → β) {x : α} {l : List α}
    (hn : (l.map key).Nodup) (hx : x ∈ l) :
    (l.map fun y => (key y, val y)).find? (fun q => q.1 == key x) = some (key x, val x) := by
  rw [List.find?_map]
  exact congrArg (Option.map _) (find?_key_of_mem key hn hx)

/-- the constant coefficient of the mass polynomial `Mₑ` -/
def m0 (e : Elem) (one : Rat) : Rat := (Spec.elemPoly e one true).getD 0 0

/-- the series whose normalised coefficients the centre-mass polynomial of entry `x` holds:
    `Mₓ · Pₓ^(nₓ−1) · ∏_{y≠x} P_y^{n_y}`, written as `(∏ P_y^{n_y}) · Pₓ⁻¹ · Mₓ` -/
noncomputable def Gmass (one : Rat) (c : List (Elem × Nat)) (e : Elem) : ℚ⟦X⟧ :=
  probSeries one c * (P one e)⁻¹ * M one e

/-- the power-sum series of `Gmass one c e` (`isPS_Gmass`), which `phi_mass_for` computes -/
noncomputable def psMass (one : Rat) (c : List (Elem × Nat)) (e : Elem) : ℚ⟦X⟧ :=
  psTot one c - psOf (P one e) + psOf (M one e)

theorem constantCoeff_M (one : Rat) (e : Elem) : constantCoeff (M one e) = m0 e one :=
  constantCoeff_toPS _

theorem constantCoeff_Gmass (one : Rat) (c : List (Elem × Nat)) (e : Elem) :
    constantCoeff (Gmass one c e) =
      scaleConst (c0 · one) c * (c0 e one)⁻¹ * m0 e one := by
  rw [Gmass, RingHom.map_mul, RingHom.map_mul, constantCoeff_inv, constantCoeff_probSeries,
    constantCoeff_P, constantCoeff_M]

theorem phiMassFor_ok {consts : IsoConstants} {c : List (Elem × Nat)} {one : Rat} {order : Nat}
    (hgood : GoodConsts consts c one order) (hc0 : ∀ x ∈ c, c0 x.1 one ≠ 0)
    (hm0 : ∀ x ∈ c, m0 x.1 one ≠ 0) (hnodup : (c.map fun x => x.1.sym).Nodup)
    {x : Elem × Nat} (hx : x ∈ c) {k : Nat} (hk : k ≤ order) :
    phiMassFor consts (toB c) x.1 k =
      .ok (coeff k (psMass one c x.1)) := by
  obtain ⟨phi, hget, hg⟩ := hgood x hx
  unfold phiMassFor toB
  -- the model subtracts 1 from the count of every entry with the SYMBOL of `x`: by `hnodup` that is the entry `x` alone
  rw [List.map_map, nthPs_of_good hget true (hg true) (hm0 x hx) hk,
    List.map_congr_left (g := fun y : Elem × Nat => (nthPs consts y.1.sym k false).bind fun v =>
      Res.ok (v * (if y = x then (y.2 : ℚ) - 1 else y.2))), sumRes_nthPs hgood hc0 _ hk]
  · -- `Σ_y (n_y − [y = x])·psOf P_y + psOf Mₓ` is `psMass`, coefficient by coefficient
    show Res.ok (_ + coeff k (psOf (M one x.1))) = _
    rw [psMass, LinearMap.map_add, LinearMap.map_sub, coeff_psTot]
    simp only [mul_ite]
    rw [sum_map_ite_eq_of_nodup _ _ (List.Nodup.of_map _ hnodup) hx]
    exact congrArg Res.ok (by ring)
  · intro y hy
    simp only [Function.comp_apply]
    by_cases hyx : y = x
    · subst hyx
      simp
    · have : y.1.sym ≠ x.1.sym := fun h => hyx (List.inj_on_of_nodup_map hnodup hy hx h)
      simp [this, hyx]

theorem isPS_Gmass {one : Rat} {c : List (Elem × Nat)} (hc0 : ∀ x ∈ c, c0 x.1 one ≠ 0)
    (hm0 : ∀ x ∈ c, m0 x.1 one ≠ 0) {x : Elem × Nat} (hx : x ∈ c) :
    IsPS (Gmass one c x.1) (psMass one c x.1) := by
  have hP : constantCoeff (P one x.1) ≠ 0 := by rw [constantCoeff_P]; exact hc0 x hx
  rw [psMass, sub_eq_add_neg]
  exact ((isPS_probSeries hc0).mul ((isPS_psOf hP).inv hP)).mul
    (isPS_psOf (by rw [constantCoeff_M]; exact hm0 x hx))

/-- this is where `Mₑ(0) = mostMass/one · Pₑ(0)` is used -/
theorem centerNum_eq (one base : Rat) (c : List (Elem × Nat)) (i : ℕ)
    (hc0 : ∀ x ∈ c, c0 x.1 one ≠ 0) (hm0 : ∀ x ∈ c, m0 x.1 one ≠ 0)
    (hmost : ∀ x ∈ c, m0 x.1 one = (x.1.mostMass : ℚ) / one * c0 x.1 one) :
    (c.map fun x : Elem × Nat => (x.2 : ℚ) *
        (coeff i (Gmass one c x.1) / constantCoeff (Gmass one c x.1)) * base *
        ((x.1.mostMass : ℚ) / one)).sum =
      base / scaleConst (c0 · one) c * coeff i (masswSeries one c) := by
  have hinv : ∀ x ∈ c, P one x.1 * (P one x.1)⁻¹ = 1 := fun x hx =>
    PowerSeries.mul_inv_cancel _ (by rw [constantCoeff_P]; exact hc0 x hx)
  rw [masswSeries_eq_masswOf, masswOf_eq_mul_sum _ _ c hinv, ← List.sum_map_mul_left, map_list_sum,
    List.map_map, ← List.sum_map_mul_left]
  refine congrArg List.sum (List.map_congr_left fun x hx => ?_)
  have hc := hc0 x hx
  have hm : (x.1.mostMass : ℚ) / one ≠ 0 := fun h => hm0 x hx (by rw [hmost x hx, h, zero_mul])
  simp only [Function.comp_apply]
  have e : probOf (P one) c * ((x.2 : ℚ⟦X⟧) * ((P one x.1)⁻¹ * M one x.1)) =
      C (x.2 : ℚ) * Gmass one c x.1 := by
    rw [Gmass, probSeries_eq_probOf, map_natCast, mul_assoc, mul_left_comm]
  rw [e, coeff_C_mul, constantCoeff_Gmass, hmost x hx, mul_comm _ (c0 x.1 one), ← mul_assoc,
    inv_mul_cancel_right₀ hc]
  have := mul_div_mul_right (coeff i (Gmass one c x.1)) (scaleConst (c0 · one) c) hm
  linear_combination ((x.2 : ℚ) * base) * this

theorem centerMassVector_of_good (consts : IsoConstants) (c : List (Elem × Nat)) (one : Rat)
    (order : Nat) (V : Int) (base : Rat) (prob : DVec) (hV : (order : Int) ≤ V)
    (hc0 : ∀ x ∈ c, c0 x.1 one ≠ 0) (hm0 : ∀ x ∈ c, m0 x.1 one ≠ 0)
    (hmost : ∀ x ∈ c, m0 x.1 one = (x.1.mostMass : ℚ) / one * c0 x.1 one)
    (hnodup : (c.map fun x => x.1.sym).Nodup) (hgood : GoodConsts consts c one order)
    (hplen : prob.length = order + 1) :
    centerMassVector consts (toB c) order V base one prob = .ok ((List.range (order + 1)).map fun i =>
      if prob.getD i 0 = 0 then 0 else
        base / scaleConst (c0 · one) c * (Spec.aggMass c one order).getD i 0 /
          prob.getD i 0) := by
  have hG0 : ∀ x ∈ c, constantCoeff (Gmass one c x.1) ≠ 0 := by
    intro x hx
    rw [constantCoeff_Gmass]
    exact mul_ne_zero (mul_ne_zero (scaleConst_ne_zero hc0) (inv_ne_zero (hc0 x hx))) (hm0 x hx)
  -- the inner loop: one centre-mass polynomial per entry, `espOfPs` of the power sums of `Gmass`
  have hpolys : mapRes (fun (x : Elem × Int) =>
        (mapRes (fun i => phiMassFor consts (toB c) x.1 (i + 1)) (List.range order)).bind fun phis =>
          Res.ok (x.1.sym, espOfPs (0 :: phis) V)) (toB c) =
      .ok (c.map fun x => (x.1.sym, espOfPs (0 :: (List.range order).map fun i =>
        coeff (i + 1) (psMass one c x.1)) V)) := by
    refine mapRes_map_ok _ (fun x : Elem × Nat => (x.1, (x.2 : Int))) _ c fun x hx => ?_
    simp only
    rw [mapRes_of_forall_ok _ (fun i => coeff (i + 1) (psMass one c x.1)) _
      fun i hi => phiMassFor_ok hgood hc0 hm0 hnodup hx (List.mem_range.mp hi)]
    rfl
  unfold centerMassVector
  rw [hpolys]
  refine mapRes_of_forall_ok _ _ _ fun i hi => ?_
  have hi' : i ≤ order := Nat.le_of_lt_succ (List.mem_range.mp hi)
  simp only
  rw [if_pos (hplen ▸ List.mem_range.mp hi)]
  by_cases hp : prob.getD i 0 = 0
  · rw [if_pos (by rw [hp]; rfl), if_pos hp]
  · -- entry `i`: the numerator is the sum `centerNum_eq` evaluates, once every entry has found its own polynomial
    rw [if_neg (mt eq_of_beq hp), if_neg hp, aggMass_closed c one order i hi',
      ← centerNum_eq one base c i hc0 hm0 hmost]
    unfold toB
    rw [List.map_map]
    refine congrArg (fun s => Res.ok (List.sum s / _)) (List.map_congr_left fun x hx => ?_)
    simp only [Function.comp_apply]
    -- the lookup by symbol finds the polynomial of `x` itself (`hnodup`), whose coefficient `i` is `Gmass`'s, normalised
    rw [find?_map_key (fun x : Elem × Nat => x.1.sym) _ hnodup hx]
    simp only
    rw [altSign_eq_pow,
      (espOfPs_coeff (isPS_Gmass hc0 hm0 hx) (hG0 x hx) order V hV).2 i hi', Int.cast_natCast]

/-- both sides are 0 where `aggProb` vanishes, so nothing is assumed of it -/
theorem centerMassVector_of_good' (consts : IsoConstants) (c : List (Elem × Nat)) (one : Rat)
    (order : Nat) (V : Int) (base : Rat) (hV : (order : Int) ≤ V)
    (hc0 : ∀ x ∈ c, c0 x.1 one ≠ 0) (hm0 : ∀ x ∈ c, m0 x.1 one ≠ 0)
    (hmost : ∀ x ∈ c, m0 x.1 one = (x.1.mostMass : ℚ) / one * c0 x.1 one)
    (hnodup : (c.map fun x => x.1.sym).Nodup) (hgood : GoodConsts consts c one order)
    (hbase : base ≠ 0) :
    centerMassVector consts (toB c) order V base one ((List.range (order + 1)).map fun i =>
        base / scaleConst (c0 · one) c * (Spec.aggProb c one order).getD i 0) =
      .ok ((List.range (order + 1)).map fun i =>
        (Spec.aggMass c one order).getD i 0 / (Spec.aggProb c one order).getD i 0) := by
  rw [centerMassVector_of_good consts c one order V base _ hV hc0 hm0 hmost hnodup hgood
    (by rw [List.length_map, List.length_range])]
  refine congrArg Res.ok (List.map_congr_left fun i hi => ?_)
  rw [getD_range_map (List.mem_range.mp hi)]
  have hk : base / scaleConst (c0 · one) c ≠ 0 := div_ne_zero hbase (scaleConst_ne_zero hc0)
  generalize base / scaleConst (c0 · one) c = κ at hk
  by_cases ha : (Spec.aggProb c one order).getD i 0 = 0
  · rw [ha]
    simp
  · rw [if_neg (mul_ne_zero hk ha), mul_div_mul_left _ _ hk]

theorem m0_eq_of_dom {e : Elem} (h : Dom e) (one : Rat)
    (hmm : e.isos.head?.map (·.mass) = some e.mostMass) :
    m0 e one = (e.mostMass : ℚ) / one * c0 e one := by
  unfold m0 c0
  rw [elemPoly_of_dom h one true, elemPoly_of_dom h one false]
  have hne := h.ne
  cases hl : e.isos with
  | nil => exact absurd hl hne
  | cons i0 rest =>
    rw [hl] at hmm
    simp only [List.head?_cons, Option.map_some, Option.some.injEq] at hmm
    simp only [List.map_cons, List.getD_cons_zero, isoCoeff, if_true, Bool.false_eq_true, if_false, hmm]
    ring

theorem m0_ne_zero_of_dom {e : Elem} (h : Dom e) {one : Rat} (hone : one ≠ 0)
    (hab : ∀ i ∈ e.isos, i.abund ≠ 0) (hmm : e.isos.head?.map (·.mass) = some e.mostMass)
    (hm : e.mostMass ≠ 0) : m0 e one ≠ 0 := by
  rw [m0_eq_of_dom h one hmm]
  exact mul_ne_zero (div_ne_zero (Int.cast_ne_zero.mpr hm) hone) (c0_ne_zero_of_dom h hone hab)

/-- For a composition inside the domain (`Dom`, pairwise distinct symbols, the recorded
    monoisotopic mass is the lightest isotope's, non-zero lightest mass and abundance) the constants
    built by `populate` exist, and from a probability vector `prob = κ·aggProb` (`base ≠ 0`) the
    centre-mass vector is `aggMass j / aggProb j` for every `j ≤ order ≤ maxVariants`. -/
theorem centerMassVector_spec (K : BrainConsts) (c : List (Elem × Nat)) (order : Nat) (base : Rat)
    (prob : DVec)
    (hdom : ∀ x ∈ c, Dom x.1) (hc0 : ∀ x ∈ c, c0 x.1 K.one ≠ 0) (hm0 : ∀ x ∈ c, m0 x.1 K.one ≠ 0)
    (hmm : ∀ x ∈ c, x.1.isos.head?.map (·.mass) = some x.1.mostMass)
    (hnodup : (c.map fun x => x.1.sym).Nodup)
    (hV : (order : Int) ≤ maxVariants (toB c)) (hbase : base ≠ 0)
    (hplen : prob.length = order + 1)
    (hprob : ∀ i, i ≤ order → prob.getD i 0 =
      base / (c.map fun x => c0 x.1 K.one ^ x.2).prod * (Spec.aggProb c K.one order).getD i 0) :
    ∃ consts cm, populate K (toB c) (order : Int) = .ok consts ∧
      centerMassVector consts (toB c) order (maxVariants (toB c)) base K.one prob = .ok cm ∧
      cm.length = order + 1 ∧
      ∀ i, i ≤ order → cm.getD i 0 =
        (Spec.aggMass c K.one order).getD i 0 / (Spec.aggProb c K.one order).getD i 0 := by
  obtain ⟨consts, hpop, hgood⟩ := populate_toB_good K c order hdom (sym_inj_of_nodup hnodup)
  obtain rfl := eq_range_map_of_getD hplen fun i hi => hprob i (Nat.le_of_lt_succ hi)
  exact ⟨consts, _, hpop, centerMassVector_of_good' consts c K.one order _ base hV hc0 hm0
    (fun x hx => m0_eq_of_dom (hdom x hx) K.one (hmm x hx)) hnodup hgood hbase,
    by rw [List.length_map, List.length_range], fun i hi => getD_range_map (Nat.lt_succ_of_le hi)⟩

end Chem
