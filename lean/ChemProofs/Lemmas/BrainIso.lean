import ChemProofs.Lemmas.BrainDefs
import ChemProofs.Lemmas.Table
/-
Under the domain condition `Dom e` the element polynomial of the specification is the
isotope list read in order, and the key walk of `isotopic_coefficients` returns it reversed.  Last, the composition with
natural-number counts as the generator sees it (`toB`) and its number of variants (`spanVariants_eq`).
-/
namespace Chem

/-- core's `List.min?` is this fold -/
theorem foldl_min_spec (l : List Int) (a : Int) :
    l.foldl min a ∈ a :: l ∧ ∀ b ∈ a :: l, l.foldl min a ≤ b :=
  List.min?_eq_some_iff.mp List.min?_cons'

theorem foldl_max_spec (l : List Int) (a : Int) :
    l.foldl max a ∈ a :: l ∧ ∀ b ∈ a :: l, b ≤ l.foldl max a :=
  List.max?_eq_some_iff.mp List.max?_cons'

namespace C03Series

/-- the lowest shift, as the specification computes it -/
def lo (e : Elem) : Int := (e.isos.map (·.shift)).foldl min 0

/-- the coefficient an isotope contributes: `aᵢ` or `mᵢ · aᵢ` (both in units of `one`) -/
def isoCoeff (one : Rat) (withMass : Bool) (i : Iso) : Rat :=
  (if withMass then (i.mass : Rat) / one else 1) * ((i.abund : Rat) / one)

end C03Series

open C03Series

theorem elemPoly_length (e : Elem) (one : Rat) (wm : Bool) :
    (Spec.elemPoly e one wm).length = Spec.elemSpan e + 1 := by
  rw [Spec.elemPoly, List.length_map, List.length_range]
  rfl

theorem elemPoly_ne_nil (e : Elem) (one : Rat) (wm : Bool) : Spec.elemPoly e one wm ≠ [] :=
  List.ne_nil_of_length_pos (by rw [elemPoly_length]; omega)

theorem elemPoly_getD (e : Elem) (one : Rat) (wm : Bool) (k : Nat) :
    (Spec.elemPoly e one wm).getD k 0 =
      if k ≤ Spec.elemSpan e then
        ((e.isos.find? fun i => i.shift == lo e + Int.ofNat k).map (isoCoeff one wm)).getD 0
      else 0 := by
  rw [Spec.elemPoly, List.getD_eq_getElem?_getD, List.getElem?_map]
  by_cases h : k ≤ Spec.elemSpan e
  · rw [if_pos h]
    unfold Spec.elemSpan at h
    rw [List.getElem?_range (Nat.lt_succ_of_le h), Option.map_some, Option.getD_some]
    unfold lo
    cases e.isos.find? fun i => i.shift == (e.isos.map (·.shift)).foldl min 0 + Int.ofNat k <;> rfl
  · rw [if_neg h]
    unfold Spec.elemSpan at h
    rw [List.getElem?_eq_none (by rw [List.length_range]; exact Nat.not_le.mp h)]
    rfl

theorem Dom.length_pos {e : Elem} (h : Dom e) : 0 < e.isos.length :=
  List.length_pos_iff.mpr h.ne

theorem Dom.mem_shifts {e : Elem} (h : Dom e) {x : Int} (hx : x ∈ 0 :: e.isos.map (·.shift)) :
    ∃ j : Nat, j < e.isos.length ∧ x = j := by
  rcases List.mem_cons.mp hx with rfl | hx
  · exact ⟨0, h.length_pos, rfl⟩
  · obtain ⟨j, hj, rfl⟩ := List.getElem_of_mem hx
    rw [List.length_map] at hj
    exact ⟨j, hj, by rw [List.getElem_map, h.shift j hj]⟩

theorem Dom.shifts_distinct {e : Elem} (h : Dom e) : e.isos.Pairwise (fun a b => a.shift ≠ b.shift) := by
  rw [List.pairwise_iff_getElem]
  intro i j hi hj hij
  rw [h.shift i hi, h.shift j hj]
  omega

theorem Dom.foldl_min {e : Elem} (h : Dom e) : (e.isos.map (·.shift)).foldl min 0 = 0 := by
  obtain ⟨hm, hle⟩ := foldl_min_spec (e.isos.map (·.shift)) 0
  obtain ⟨j, _, hj⟩ := h.mem_shifts hm
  exact Int.le_antisymm (hle 0 List.mem_cons_self) ((Int.natCast_nonneg j).trans_eq hj.symm)

theorem Dom.foldl_max {e : Elem} (h : Dom e) :
    (e.isos.map (·.shift)).foldl max 0 = (e.isos.length : Int) - 1 := by
  have hpos : e.isos.length - 1 < e.isos.length := Nat.sub_one_lt_of_lt h.length_pos
  obtain ⟨hm, hle⟩ := foldl_max_spec (e.isos.map (·.shift)) 0
  have hlast := hle (e.isos[e.isos.length - 1]).shift
    (List.mem_cons_of_mem _ (List.mem_map.mpr ⟨_, List.getElem_mem hpos, rfl⟩))
  rw [h.shift _ hpos, Int.natCast_pred_of_pos h.length_pos] at hlast
  obtain ⟨j, hjl, hj⟩ := h.mem_shifts hm
  exact Int.le_antisymm (hj ▸ Int.le_sub_one_of_lt (Int.ofNat_lt.2 hjl)) hlast

theorem Dom.find_shift {e : Elem} (h : Dom e) (k : Nat) (hk : k < e.isos.length) :
    e.isos.find? (fun i => i.shift == (0 : Int) + Int.ofNat k) = some e.isos[k] := by
  have := find?_key_of_mem (·.shift) (List.pairwise_map.2 h.shifts_distinct) (List.getElem_mem hk)
  rwa [h.shift k hk, ← Int.zero_add (k : Int)] at this

theorem Dom.find_key {e : Elem} (h : Dom e) (k : Nat) (hk : k < e.isos.length) :
    e.iso? (e.elemNum + k) = some e.isos[k] := by
  have hd : (e.isos.map (·.key)).Nodup :=
    List.pairwise_map.2 <| List.pairwise_iff_getElem.2 fun i j hi hj hij => by
      rw [h.key i hi, h.key j hj]
      exact fun hc => Nat.ne_of_lt hij (Nat.add_left_cancel hc)
  have := find?_key_of_mem (·.key) hd (List.getElem_mem hk)
  rwa [h.key k hk] at this

theorem elemPoly_of_dom {e : Elem} (h : Dom e) (one : Rat) (wm : Bool) :
    Spec.elemPoly e one wm = e.isos.map (isoCoeff one wm) := by
  have hspan : Spec.elemSpan e + 1 = e.isos.length := by
    rw [Spec.elemSpan, h.foldl_min, h.foldl_max, Int.sub_zero, ← Int.natCast_pred_of_pos h.length_pos]
    exact Nat.sub_add_cancel h.length_pos
  refine List.ext_getElem (by rw [elemPoly_length, hspan, List.length_map]) fun k h1 h2 => ?_
  have hk : k < e.isos.length := by rwa [List.length_map] at h2
  rw [List.getElem_eq_getD 0, elemPoly_getD, if_pos (Nat.le_of_lt_succ (Nat.lt_of_lt_of_eq hk hspan.symm)), lo,
    h.foldl_min, h.find_shift k hk, List.getElem_map]
  rfl

theorem elemPoly_length_of_dom {e : Elem} (h : Dom e) (one : Rat) (wm : Bool) :
    (Spec.elemPoly e one wm).length = e.isos.length := by
  rw [elemPoly_of_dom h, List.length_map]

theorem c0_eq_of_dom {e : Elem} (h : Dom e) (one : Rat) :
    ∃ i0 rest, e.isos = i0 :: rest ∧ c0 e one = (i0.abund : Rat) / one := by
  unfold c0
  rw [elemPoly_of_dom h one false]
  cases hl : e.isos with
  | nil => exact absurd hl h.ne
  | cons i0 rest => exact ⟨i0, rest, rfl, one_mul _⟩

theorem c0_ne_zero_of_dom {e : Elem} (h : Dom e) {one : Rat} (hone : one ≠ 0)
    (hab : ∀ i ∈ e.isos, i.abund ≠ 0) : c0 e one ≠ 0 := by
  obtain ⟨i0, rest, hl, hc⟩ := c0_eq_of_dom h one
  rw [hc]
  exact div_ne_zero (Int.cast_ne_zero.mpr (hab i0 (by rw [hl]; exact List.mem_cons_self))) hone

/-- what the key walk reads at index `m` of a `Dom` element: the isotope at position `m` from the heavy end, whose
    order is `m`.  The walk looks isotopes up by KEY, counting down from `isos.length + elemNum − 1`:
    `element_number` in `/repo` is the nucleon number of the most abundant isotope (carbon: 12), not Z, and
    `Dom.key` says the keys are `elemNum, elemNum + 1, …` -/
theorem Dom.walk {e : Elem} (h : Dom e) {m : Nat} (hm : m < e.isos.length) :
    ¬ ((e.isos.length : Int) + (e.elemNum : Int) - (m : Int) - 1) < 0 ∧
    e.iso? ((e.isos.length : Int) + (e.elemNum : Int) - (m : Int) - 1).toNat =
      some ((e.isos.reverse)[m]'(by rwa [List.length_reverse])) ∧
    (e.maxShift - ((e.isos.reverse)[m]'(by rwa [List.length_reverse])).shift).toNat = m := by
  have hidx : e.isos.length - 1 - m < e.isos.length := Nat.sub_one_sub_lt hm
  -- the arithmetic once, without `toNat`: `omega` on the three goals is three times as dear
  have hk : (e.isos.length : Int) + e.elemNum - m - 1 = ((e.elemNum + (e.isos.length - 1 - m) : Nat) : Int)
      ∧ (e.isos.length : Int) - 1 - ((e.isos.length - 1 - m : Nat) : Int) = m := by omega
  rw [List.getElem_reverse, h.maxShift, h.shift _ hidx, ← h.find_key _ hidx, hk.1, hk.2]
  exact ⟨Int.not_lt.2 (Int.natCast_nonneg _), rfl, Int.toNat_natCast m⟩

theorem isoCoefLoop_cons_of_dom {e : Elem} (h : Dom e) (one : Rat) (wm : Bool) {m : Nat}
    (hm : m < e.isos.length) (rest : List Nat) {acc : DVec} (hacc : acc.length = m) :
    isoCoefLoop e wm one (m :: rest) acc =
      isoCoefLoop e wm one rest
        (acc ++ [isoCoeff one wm ((e.isos.reverse)[m]'(by rwa [List.length_reverse]))]) := by
  obtain ⟨h0, hf, ho⟩ := h.walk hm
  rw [isoCoefLoop]
  simp only [h0, if_false, hf, ho, hacc, Nat.lt_irrefl, beq_iff_eq, if_true]
  rfl

theorem isoCoefLoop_of_dom {e : Elem} (h : Dom e) (one : Rat) (wm : Bool) (d m : Nat) (acc : DVec)
    (hmd : m + d = e.isos.length) (hacc : acc.length = m) :
    isoCoefLoop e wm one (List.range' m d) acc =
      .ok (acc ++ (e.isos.reverse.drop m).map (isoCoeff one wm)) := by
  induction d generalizing m acc with
  | zero =>
    rw [List.drop_eq_nil_of_le (i := m) (List.length_reverse.trans hmd.symm).le, List.map_nil,
      List.append_nil]
    rfl
  | succ d ih =>
    have hm : m < e.isos.length := hmd ▸ Nat.lt_add_of_pos_right d.succ_pos
    rw [List.range'_succ, isoCoefLoop_cons_of_dom h one wm hm _ hacc,
      ih (m + 1) _ ((Nat.add_right_comm m 1 d).trans hmd) (by rw [List.length_append, List.length_singleton, hacc]),
      List.drop_eq_getElem_cons (i := m) (by rwa [List.length_reverse]), List.map_cons, List.append_assoc]
    rfl

/-- the key walk of `isotopic_coefficients` returns the reversed element polynomial -/
theorem isotopicCoefficients_of_dom {e : Elem} (h : Dom e) (one : Rat) (wm : Bool) :
    isotopicCoefficients e wm one = .ok (Spec.elemPoly e one wm).reverse := by
  have hn : (e.maxShift - e.minShift).toNat + 1 = e.isos.length := by
    rw [h.maxShift, h.minShift, Int.sub_zero, ← Int.natCast_pred_of_pos h.length_pos]
    exact Nat.sub_add_cancel h.length_pos
  rw [isotopicCoefficients, hn, List.range_eq_range',
    isoCoefLoop_of_dom h one wm e.isos.length 0 [] (Nat.zero_add _) rfl, elemPoly_of_dom h, List.drop_zero,
    List.nil_append, List.map_reverse]

/-- a natural-abundance composition with natural-number counts, as the generator sees it -/
def toB (c : List (Elem × Nat)) : BComp := c.map fun x => (x.1, (x.2 : Int))

theorem mem_toB {c : List (Elem × Nat)} {x : Elem × Int} (hx : x ∈ toB c) :
    ∃ y ∈ c, x = (y.1, (y.2 : Int)) := by
  obtain ⟨y, hy, rfl⟩ := List.mem_map.mp hx
  exact ⟨y, hy, rfl⟩

/-- number of variants beyond the monoisotopic one, as a natural number (`Dom`: `= maxVariants`) -/
def spanVariants (c : List (Elem × Nat)) : Nat := (c.map fun x => (x.1.isos.length - 1) * x.2).sum

theorem spanVariants_eq (c : List (Elem × Nat)) (hdom : ∀ x ∈ c, Dom x.1) :
    (spanVariants c : Int) = maxVariants (toB c) := by
  induction c with
  | nil => rfl
  | cons x c ih =>
    have hx := hdom x List.mem_cons_self
    have hp := hx.length_pos
    have ih' := ih fun y hy => hdom y (List.mem_cons_of_mem _ hy)
    simp only [spanVariants, maxVariants, toB, List.map_cons, List.sum_cons, List.map_map] at ih' ⊢
    rw [← ih', hx.maxShift]
    rw [Int.natCast_add, Int.natCast_mul, Int.natCast_sub hp]
    rfl

theorem maxVariants_toB_nonneg (c : List (Elem × Nat)) (hdom : ∀ x ∈ c, Dom x.1) :
    0 ≤ maxVariants (toB c) :=
  spanVariants_eq c hdom ▸ Int.natCast_nonneg _

end Chem
