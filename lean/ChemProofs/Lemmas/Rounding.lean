import Mathlib.Tactic.Ring
import Mathlib.Tactic.Linarith
import Mathlib.Tactic.NormNum
import Mathlib.Algebra.Order.Field.Rat
import Mathlib.Algebra.Order.Field.Basic
import Mathlib.Algebra.Order.Ring.Abs
import Mathlib.Algebra.Order.Ring.Pow
import Mathlib.Algebra.Order.BigOperators.Group.List
import ChemProofs.Model.Float
/-
What the floating-point bounds (standard model, `Model/Float.lean`) rest on.  `Within a b x y` says that `y` is
`x` up to a factor in `[a, b]`: a rounding of a non-negative number is `Within (1 - u) (1 + u)`, factors multiply
along a chain of operations, are swapped by a reciprocal and survive sums of non-negative terms; every two-sided
bound of the `Props/*Float` files is such a chain.  The end results state their bounds as the conjunction
`a * x ≤ y ∧ y ≤ b * x`, which is `Within a b x y` by definition, so they are passed where a `Within` is expected.
Then the two inductions over the left-to-right sum, and
Bernoulli's inequality in the form the binary64 instances use: `p` against `q` factors `1 ± u` are within
`γ = k u / (1 - k u)` of `1` when `p + q ≤ k` (Higham, *Accuracy and Stability*, Lemma 3.1).
-/
namespace Chem

/-- meant for `x ≥ 0` -/
def Within (a b x y : ℚ) : Prop := a * x ≤ y ∧ y ≤ b * x

namespace Within
variable {a b c d x y z x' y' : ℚ}

theorem refl (x : ℚ) : Within 1 1 x x := ⟨(one_mul x).le, (one_mul x).ge⟩

theorem nonneg (h : Within a b x y) (ha : 0 ≤ a) (hx : 0 ≤ x) : 0 ≤ y :=
  (mul_nonneg ha hx).trans h.1

theorem pos (h : Within a b x y) (ha : 0 < a) (hx : 0 < x) : 0 < y :=
  (mul_pos ha hx).trans_le h.1

theorem mono (h : Within a b x y) (hx : 0 ≤ x) (ha : c ≤ a) (hb : b ≤ d) : Within c d x y :=
  ⟨(mul_le_mul_of_nonneg_right ha hx).trans h.1, h.2.trans (mul_le_mul_of_nonneg_right hb hx)⟩

theorem trans (h₁ : Within a b x y) (h₂ : Within c d y z) (hc : 0 ≤ c) (hd : 0 ≤ d) :
    Within (c * a) (d * b) x z :=
  ⟨(mul_assoc c a x).le.trans ((mul_le_mul_of_nonneg_left h₁.1 hc).trans h₂.1),
   (h₂.2.trans (mul_le_mul_of_nonneg_left h₁.2 hd)).trans (mul_assoc d b x).ge⟩

theorem mul_left (h : Within a b x y) (hc : 0 ≤ c) : Within a b (c * x) (c * y) :=
  ⟨(mul_left_comm a c x).le.trans (mul_le_mul_of_nonneg_left h.1 hc),
   (mul_le_mul_of_nonneg_left h.2 hc).trans (mul_left_comm c b x).le⟩

theorem add (h : Within a b x y) (h' : Within a b x' y') : Within a b (x + x') (y + y') :=
  ⟨(mul_add a x x').le.trans (add_le_add h.1 h'.1), (add_le_add h.2 h'.2).trans (mul_add b x x').ge⟩

theorem one_div (h : Within a b x y) (ha : 0 < a) (hx : 0 < x) :
    Within (1 / b) (1 / a) (1 / x) (1 / y) := by
  have hax := mul_pos ha hx
  constructor
  · rw [one_div_mul_one_div]
    exact one_div_le_one_div_of_le (hax.trans_le h.1) h.2
  · rw [one_div_mul_one_div]
    exact one_div_le_one_div_of_le hax h.1

theorem sum_map_mul {f : ℚ → ℚ} {r : ℚ} {l : List ℚ} (h : ∀ x ∈ l, Within a b (x * r) (f x)) :
    Within a b (l.sum * r) (l.map f).sum := by
  induction l with
  | nil => simp [Within]
  | cons x l ih =>
    rw [List.map_cons, List.sum_cons, List.sum_cons, add_mul]
    exact (h x (List.mem_cons_self ..)).add (ih fun y hy => h y (List.mem_cons_of_mem _ hy))

theorem of_abs_sub_le {ε : ℚ} (h : |y - x| ≤ ε * x) : Within (1 - ε) (1 + ε) x y :=
  have h := abs_sub_le_iff.1 h
  ⟨(one_sub_mul ε x).le.trans (sub_le_comm.1 h.2), (sub_le_iff_le_add'.1 h.1).trans (one_add_mul ε x).ge⟩

end Within

/-- `ratAbs` is the model's own absolute value (`Model/Peaks.lean`).  Part of the layer's statements are written with
it (C13Float, C15Float, `flFused_sum_f64`), part with `|·|` (C02Float, `flFusedTotal_err_pre`); the proofs pass to
`|·|` at once -/
theorem ratAbs_eq_abs (x : ℚ) : ratAbs x = |x| := by
  unfold ratAbs
  split_ifs with h
  · exact (abs_of_neg h).symm
  · exact (abs_of_nonneg (not_lt.mp h)).symm

theorem ratAbs_nonneg (x : ℚ) : 0 ≤ ratAbs x := (abs_nonneg x).trans_eq (ratAbs_eq_abs x).symm

theorem map_ratAbs_eq (l : List ℚ) : l.map ratAbs = l.map fun x => |x| :=
  List.map_congr_left fun x _ => ratAbs_eq_abs x

theorem sum_map_abs_nonneg {ι : Type} (f : ι → ℚ) (l : List ι) : 0 ≤ (l.map fun i => |f i|).sum :=
  List.sum_nonneg fun y hy => by
    obtain ⟨z, _, rfl⟩ := List.mem_map.mp hy
    exact abs_nonneg _

theorem sum_map_abs_of_nonneg {l : List ℚ} (h : ∀ x ∈ l, 0 ≤ x) : (l.map fun x => |x|).sum = l.sum := by
  rw [List.map_congr_left fun x hx => abs_of_nonneg (h x hx), List.map_id']

theorem rnd_abs {F : FlModel} (hF : F.OK) (x : ℚ) : |F.rnd x - x| ≤ F.u * |x| := by
  have := hF.2 x
  rwa [ratAbs_eq_abs, ratAbs_eq_abs] at this

theorem rnd_bounds {F : FlModel} (hF : F.OK) {x : ℚ} (hx : 0 ≤ x) :
    (1 - F.u) * x ≤ F.rnd x ∧ F.rnd x ≤ (1 + F.u) * x := by
  have h := rnd_abs hF x
  rw [abs_of_nonneg hx] at h
  exact Within.of_abs_sub_le h

theorem one_add_u_nonneg {F : FlModel} (hF : F.OK) : 0 ≤ 1 + F.u := add_nonneg zero_le_one hF.1

theorem rnd_nonneg {F : FlModel} (hF : F.OK) (hu : F.u ≤ 1) {x : ℚ} (hx : 0 ≤ x) : 0 ≤ F.rnd x :=
  Within.nonneg (rnd_bounds hF hx) (sub_nonneg.2 hu) hx

theorem rnd_pos {F : FlModel} (hF : F.OK) (hu : F.u < 1) {x : ℚ} (hx : 0 < x) : 0 < F.rnd x :=
  Within.pos (rnd_bounds hF hx.le) (sub_pos.2 hu) hx

theorem Within.rnd {F : FlModel} (hF : F.OK) (hu : F.u ≤ 1) {a b x y : ℚ} (h : Within a b x y)
    (hy : 0 ≤ y) :
    Within ((1 - F.u) * a) ((1 + F.u) * b) x (F.rnd y) :=
  h.trans (rnd_bounds hF hy) (sub_nonneg.2 hu) (one_add_u_nonneg hF)

theorem rnd_eq' {F : FlModel} (hF : F.OK) (x : ℚ) : ∃ δ : ℚ, |δ| ≤ F.u ∧ F.rnd x = x * (1 + δ) := by
  have h := rnd_abs hF x
  by_cases hx : x = 0
  · subst hx
    rw [abs_zero, mul_zero, sub_zero] at h
    exact ⟨0, abs_zero.trans_le hF.1, by rw [abs_nonpos_iff.mp h, zero_mul]⟩
  · refine ⟨(F.rnd x - x) / x, ?_, by rw [mul_add, mul_one, mul_div_cancel₀ _ hx, add_sub_cancel]⟩
    rwa [abs_div, div_le_iff₀ (abs_pos.mpr hx)]

/- Numbers of either sign: the counterpart of `Within` is the relative error `|y - x| ≤ ε |x|`. -/

theorem abs_le_of_relerr {e x y : ℚ} (h : |y - x| ≤ e * |x|) : |y| ≤ (1 + e) * |x| :=
  (sub_le_iff_le_add'.1 ((abs_sub_abs_le_abs_sub y x).trans h)).trans (one_add_mul e |x|).ge

theorem relerr_mul_right {e x y : ℚ} (c : ℚ) (h : |y - x| ≤ e * |x|) : |y * c - x * c| ≤ e * |x * c| := by
  rw [← sub_mul, abs_mul, abs_mul, ← mul_assoc]
  exact mul_le_mul_of_nonneg_right h (abs_nonneg c)

/-- a carrier `w` is added to `m`, the sum is then known as `p` up to `q - 1` relative to `|m| + W`, and `w` is
subtracted again with one rounding: `m` has seen one rounding more than `w` -/
theorem sub_rnd_err {u q m w p r W : ℚ} (hu : 0 ≤ u) (hp : |p - (m + w)| ≤ (q - 1) * (|m| + W))
    (hr : |r - (p - w)| ≤ u * |p - w|) :
    |r - m| ≤ (q * (1 + u) - 1) * |m| + (1 + u) * (q - 1) * W := by
  have e1 : p - w - m = p - (m + w) := by rw [sub_sub, add_comm]
  have h1 := abs_sub_le r (p - w) m
  have h2 : |p - w| ≤ |p - w - m| + |m| := sub_le_iff_le_add.1 (abs_sub_abs_le_abs_sub (p - w) m)
  rw [e1] at h1 h2
  have h3 := mul_le_mul_of_nonneg_left (h2.trans (add_le_add_left hp _)) hu
  linarith only [h1, hr, hp, h3]

/-- one more rounding: `sub_rnd_err` without a carrier -/
theorem relerr_rnd {F : FlModel} (hF : F.OK) {k : Nat} {x y : ℚ} (h : |y - x| ≤ ((1 + F.u) ^ k - 1) * |x|) :
    |F.rnd y - x| ≤ ((1 + F.u) ^ (k + 1) - 1) * |x| := by
  have := sub_rnd_err (w := 0) (W := 0) hF.1 (by rwa [add_zero, add_zero])
    (by rw [sub_zero]; exact rnd_abs hF y)
  rwa [mul_zero, add_zero, ← pow_succ] at this

theorem FlModel.OK_exact {u : ℚ} (hu : 0 ≤ u) : (⟨fun x => x, u⟩ : FlModel).OK := by
  refine ⟨hu, fun x => ?_⟩
  show ratAbs (x - x) ≤ u * ratAbs x
  rw [sub_self, ratAbs_eq_abs, ratAbs_eq_abs, abs_zero]
  exact mul_nonneg hu (abs_nonneg x)

theorem FlModel.OK_perturb {u : ℚ} (hu : 0 ≤ u) : (⟨fun x => x * (1 + u), u⟩ : FlModel).OK := by
  refine ⟨hu, fun x => ?_⟩
  show ratAbs (x * (1 + u) - x) ≤ u * ratAbs x
  rw [ratAbs_eq_abs, ratAbs_eq_abs, mul_add, mul_one, add_sub_cancel_left, mul_comm, abs_mul,
    abs_of_nonneg hu]

/-- `flSum` started from an accumulator `acc ≥ 0` (`acc = 0`: `flSum_bounds`), non-negative terms -/
theorem foldl_within {F : FlModel} (hF : F.OK) (hu : F.u ≤ 1) :
    ∀ (l : List ℚ) (acc : ℚ), (∀ x ∈ l, 0 ≤ x) → 0 ≤ acc →
      Within ((1 - F.u) ^ l.length) ((1 + F.u) ^ l.length) (acc + l.sum)
        (l.foldl (fun acc x => F.rnd (acc + x)) acc) := fun l => by
  induction l with
  | nil => exact fun acc _ _ => by simpa using Within.refl acc
  | cons x l ih =>
    intro acc hl hacc
    have hl' : ∀ y ∈ l, 0 ≤ y := fun y hy => hl y (List.mem_cons_of_mem _ hy)
    have hax : 0 ≤ acc + x := add_nonneg hacc (hl x (List.mem_cons_self ..))
    have hr : Within (1 - F.u) (1 + F.u) (acc + x) (F.rnd (acc + x)) := rnd_bounds hF hax
    -- the terms still to come are exact so far: a factor 1, which lies between `1 - u` and `1 + u`
    have h1 := hr.add ((Within.refl l.sum).mono (List.sum_nonneg hl') (sub_le_self 1 hF.1)
      (le_add_of_nonneg_right hF.1))
    have ih := ih _ hl' (hr.nonneg (sub_nonneg.2 hu) hax)
    rw [List.foldl_cons, List.length_cons, List.sum_cons, pow_succ, pow_succ, ← add_assoc]
    exact h1.trans ih (pow_nonneg (sub_nonneg.2 hu) _) (pow_nonneg (one_add_u_nonneg hF) _)

theorem pow_sub_one_nonneg {u : ℚ} (h0 : 0 ≤ u) (n : Nat) : 0 ≤ (1 + u) ^ n - 1 :=
  sub_nonneg.2 (one_le_pow₀ (le_add_of_nonneg_right h0))

theorem one_sub_pow_pos {u : ℚ} (hu : u < 1) (n : Nat) : 0 < (1 - u) ^ n := pow_pos (sub_pos.2 hu) n

/-- one step of `foldl_abs_bound`, over variables so that `linarith` sees nothing else: `r` is the rounded `s`,
and `g` is what the rest of the sum (exactly `t`) makes of `r` -/
theorem abs_err_step {u p B g r s t : ℚ} (h0 : 0 ≤ u) (hp : 1 ≤ p) (hB : 0 ≤ B)
    (hr : |r - s| ≤ u * |s|) (hg : |g - (r + t)| ≤ (p - 1) * (|r| + B)) :
    |g - (s + t)| ≤ (p * (1 + u) - 1) * (|s| + B) := by
  have h2 : |g - (s + t)| ≤ |g - (r + t)| + |r - s| := by
    have := abs_sub_le g (r + t) (s + t)
    rwa [add_sub_add_right_eq_sub] at this
  have h3 := mul_le_mul_of_nonneg_left (abs_le_of_relerr hr) (sub_nonneg.2 hp)
  have h4 : 0 ≤ p * u * B := mul_nonneg (mul_nonneg (zero_le_one.trans hp) h0) hB
  linarith only [h2, hg, hr, h3, h4]

/-- `flSum` started from an accumulator `acc` (`acc = 0`: `flSum_abs_le`), signed terms; no smallness condition
on `u` -/
theorem foldl_abs_bound {F : FlModel} (hF : F.OK) :
    ∀ (l : List ℚ) (acc : ℚ),
      |l.foldl (fun acc x => F.rnd (acc + x)) acc - (acc + l.sum)|
        ≤ ((1 + F.u) ^ l.length - 1) * (|acc| + (l.map fun x => |x|).sum) := fun l => by
  induction l with
  | nil => simp
  | cons x l ih =>
    intro acc
    have hp : 1 ≤ (1 + F.u) ^ l.length := one_le_pow₀ (le_add_of_nonneg_right hF.1)
    have h := abs_err_step hF.1 hp (sum_map_abs_nonneg (fun x => x) l) (rnd_abs hF (acc + x))
      (ih (F.rnd (acc + x)))
    rw [List.foldl_cons, List.length_cons, List.sum_cons, List.map_cons, List.sum_cons, pow_succ,
      ← add_assoc, ← add_assoc]
    refine h.trans (mul_le_mul_of_nonneg_left (add_le_add (abs_add_le acc x) le_rfl) ?_)
    rw [← pow_succ]
    exact pow_sub_one_nonneg hF.1 _

/-- `flSum_abs_bound` (`Props/C15Float.lean`) says the same with `ratAbs`, and carries a hypothesis `u ≤ 1` that
is not needed -/
theorem flSum_abs_le {F : FlModel} (hF : F.OK) (l : List ℚ) :
    |flSum F l - l.sum| ≤ ((1 + F.u) ^ l.length - 1) * (l.map fun x => |x|).sum := by
  have := foldl_abs_bound hF l 0
  rwa [abs_zero, zero_add, zero_add] at this

/-- Bernoulli's inequality (Mathlib's `one_add_mul_le_pow`) at `-u`; `u ≤ 2` would do and `h0` is not needed -/
theorem one_sub_pow_ge {u : ℚ} (h0 : 0 ≤ u) (h1 : u ≤ 1) :
    ∀ n : Nat, 1 - (n : ℚ) * u ≤ (1 - u) ^ n := fun n => by
  have _ := h0
  have h := one_add_mul_le_pow ((neg_le_neg h1).trans' (neg_le_neg one_le_two)) n
  rwa [mul_neg, ← sub_eq_add_neg, ← sub_eq_add_neg] at h

theorem one_add_pow_mul_one_sub_pow_le {u : ℚ} (h0 : 0 ≤ u) (h1 : u ≤ 1) (n : Nat) :
    (1 + u) ^ n * (1 - u) ^ n ≤ 1 := by
  rw [← mul_pow]
  refine pow_le_one₀ (mul_nonneg (le_add_of_le_of_nonneg zero_le_one h0) (sub_nonneg.2 h1)) ?_
  linarith only [mul_nonneg h0 h0]

theorem one_add_pow_mul_le {u : ℚ} (h0 : 0 ≤ u) :
    ∀ n : Nat, (n : ℚ) * u ≤ 1 → (1 + u) ^ n * (1 - (n : ℚ) * u) ≤ 1 := fun n h => by
  cases n with
  | zero => simp
  | succ n =>
    have h1 : u ≤ 1 := (le_mul_of_one_le_left h0 (Nat.one_le_cast.2 n.succ_pos)).trans h
    exact (mul_le_mul_of_nonneg_left (one_sub_pow_ge h0 h1 _)
      (pow_nonneg (le_add_of_le_of_nonneg zero_le_one h0) _)).trans
      (one_add_pow_mul_one_sub_pow_le h0 h1 _)

/-- the upper bound is the reciprocal of the lower one with `p` and `q` exchanged -/
theorem pow_div_pow_bounds {u : ℚ} (h0 : 0 ≤ u) (h1 : u < 1) {p q k : Nat} (hk : p + q ≤ k)
    (hd : 0 < 1 - (k : ℚ) * u) :
    1 - (k : ℚ) * u ≤ (1 - u) ^ p / (1 + u) ^ q ∧ (1 + u) ^ p / (1 - u) ^ q ≤ 1 / (1 - (k : ℚ) * u) := by
  have hm : 0 ≤ 1 - u := sub_nonneg.2 h1.le
  have hpl : 0 < 1 + u := add_pos_of_pos_of_nonneg one_pos h0
  -- `1 - k u ≤ (1 - u)^k ≤ (1 - u)^(p + q) ≤ (1 - u)^p / (1 + u)^q`
  have lo : ∀ {p q : Nat}, p + q ≤ k → 1 - (k : ℚ) * u ≤ (1 - u) ^ p / (1 + u) ^ q := fun {p q} hk =>
    (one_sub_pow_ge h0 h1.le k).trans <| (pow_le_pow_of_le_one hm (sub_le_self 1 h0) hk).trans <|
      (pow_add ..).le.trans <| (le_div_iff₀ (pow_pos hpl q)).2 <| (mul_assoc ..).le.trans <|
        mul_le_of_le_one_right (pow_nonneg hm p) ((mul_comm ..).le.trans
          (one_add_pow_mul_one_sub_pow_le h0 h1.le q))
  refine ⟨lo hk, ?_⟩
  have := one_div_le_one_div_of_le hd (lo ((Nat.add_comm q p).trans_le hk))
  rwa [one_div_div] at this

theorem pow_div_pow_le_two {u : ℚ} (h0 : 0 ≤ u) (h1 : u < 1) {p q k : Nat} (hk : p + q ≤ k)
    (hku : (k : ℚ) * u ≤ 1 / 2) : (1 + u) ^ p / (1 - u) ^ q ≤ 2 := by
  have hd : (1 : ℚ) / 2 ≤ 1 - (k : ℚ) * u := le_sub_comm.1 (hku.trans (sub_half 1).ge)
  exact ((pow_div_pow_bounds h0 h1 hk (one_half_pos.trans_le hd)).2.trans
    (one_div_le_one_div_of_le one_half_pos hd)).trans (one_div_one_div 2).le

theorem one_div_one_sub_sub_one {v : ℚ} (h : 1 - v ≠ 0) : 1 / (1 - v) - 1 = v / (1 - v) := by
  rw [sub_eq_iff_eq_add', one_add_div h, sub_add_cancel]

theorem abs_sub_one_le_of_pow_bounds {u ε s : ℚ} (h0 : 0 ≤ u) (h1 : u < 1) {p q k : Nat}
    (hk : p + q ≤ k) (hku : (k : ℚ) * u < 1) (hγ : (k : ℚ) * u / (1 - (k : ℚ) * u) ≤ ε)
    (hlo : (1 - u) ^ p / (1 + u) ^ q ≤ s) (hhi : s ≤ (1 + u) ^ p / (1 - u) ^ q) : |s - 1| ≤ ε := by
  have hku0 : 0 ≤ (k : ℚ) * u := mul_nonneg k.cast_nonneg h0
  have hd : 0 < 1 - (k : ℚ) * u := sub_pos.2 hku
  obtain ⟨blo, bhi⟩ := pow_div_pow_bounds h0 h1 hk hd
  rw [abs_sub_le_iff]
  constructor
  · calc s - 1 ≤ 1 / (1 - (k : ℚ) * u) - 1 := sub_le_sub_right (hhi.trans bhi) 1
      _ = (k : ℚ) * u / (1 - (k : ℚ) * u) := one_div_one_sub_sub_one hd.ne'
      _ ≤ ε := hγ
  · calc 1 - s ≤ 1 - (1 - (k : ℚ) * u) := sub_le_sub_left (blo.trans hlo) 1
      _ = (k : ℚ) * u := sub_sub_cancel 1 _
      _ ≤ (k : ℚ) * u / (1 - (k : ℚ) * u) := le_div_self hku0 hd (sub_le_self 1 hku0)
      _ ≤ ε := hγ

theorem one_add_pow_sub_one_le {u : ℚ} (h0 : 0 ≤ u) {n k : Nat} (hk : n ≤ k) (hku : (k : ℚ) * u < 1) :
    (1 + u) ^ n - 1 ≤ (k : ℚ) * u / (1 - (k : ℚ) * u) := by
  have hd : 0 < 1 - (k : ℚ) * u := sub_pos.2 hku
  calc (1 + u) ^ n - 1 ≤ (1 + u) ^ k - 1 :=
        sub_le_sub_right (pow_le_pow_right₀ (le_add_of_nonneg_right h0) hk) 1
    _ ≤ 1 / (1 - (k : ℚ) * u) - 1 :=
        sub_le_sub_right ((le_div_iff₀ hd).2 (one_add_pow_mul_le h0 k hku.le)) 1
    _ = (k : ℚ) * u / (1 - (k : ℚ) * u) := one_div_one_sub_sub_one hd.ne'

theorem f64_u_lt_one {u : ℚ} (hu : u = 1 / 2 ^ 53) : u < 1 := by
  rw [hu]
  norm_num

end Chem
