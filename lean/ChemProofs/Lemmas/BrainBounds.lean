import ChemProofs.Lemmas.BrainSeries
import Mathlib.RingTheory.PowerSeries.Derivative
import Mathlib.Algebra.Order.Ring.Defs
import Mathlib.Algebra.Order.BigOperators.Ring.List
/-
Coefficient-wise inequalities between power series over ℚ, and what they give for the two closed forms
`probOf` (`∏ Pₑ^nₑ`) and `masswOf` (`Σₑ nₑ·Pₑ^(nₑ−1)·Mₑ·∏_{e'≠e} …`) of Lemmas/BrainSeries.lean.

When every `Pₑ` has non-negative coefficients, `masswOf` is monotone in the numerators `Mₑ` (`masswOf_mono`).
For numerators of the form `bₑ·Pₑ + d·Θ Pₑ`, with the Euler operator `Θ = X·d/dX` (`coeff k (Θ F) = k·coeff k F`),
the product rule collapses the sum: `masswOf = (Σ nₑ bₑ)·∏ + d·Θ ∏` (`masswOf_affine`).  Together: if every
`Mₑ` lies coefficient-wise between two such numerators, coefficient `j` of the mass-weighted series lies between
`(Σ nₑ bₑ + d·j)` times coefficient `j` of the product — the mass range (`d = 0`) and the per-neutron increments
(`d ≠ 0`) of C09.  For the division by that coefficient: strict positivity up to a degree (`PosUpTo`) passes to products.
-/
namespace Chem
open PowerSeries C03Series

/-- the coefficient-wise order: with it `ℚ⟦X⟧` is an ordered ring (Mathlib has no order on power series), so the
    monotonicity laws used below are Mathlib's -/
scoped instance : PartialOrder ℚ⟦X⟧ where
  le A B := ∀ i, coeff i A ≤ coeff i B
  le_refl _ _ := le_refl _
  le_trans _ _ _ h1 h2 i := le_trans (h1 i) (h2 i)
  le_antisymm _ _ h1 h2 := PowerSeries.ext fun i => le_antisymm (h1 i) (h2 i)

theorem coeff_le_coeff {A B : ℚ⟦X⟧} : A ≤ B ↔ ∀ i, coeff i A ≤ coeff i B := Iff.rfl

theorem coeff_nonneg {A : ℚ⟦X⟧} : 0 ≤ A ↔ ∀ i, 0 ≤ coeff i A := by
  simp only [coeff_le_coeff, LinearMap.map_zero]

scoped instance : IsOrderedAddMonoid ℚ⟦X⟧ where
  add_le_add_left A B h C i := by
    rw [LinearMap.map_add, LinearMap.map_add]
    exact add_le_add_left (h i) _

scoped instance : ZeroLEOneClass ℚ⟦X⟧ where
  zero_le_one := coeff_nonneg.2 fun i => by
    rw [coeff_one]
    split <;> norm_num

scoped instance : IsOrderedRing ℚ⟦X⟧ :=
  .of_mul_nonneg fun A B ha hb => coeff_nonneg.2 fun i => by
    rw [coeff_mul]
    exact Finset.sum_nonneg fun p _ => mul_nonneg (coeff_nonneg.1 ha _) (coeff_nonneg.1 hb _)

/-- under products the degrees add (`PosUpTo.mul`): this is how `∏ Pₑ^nₑ` is shown positive up to the number of variants -/
def PosUpTo (d : Nat) (A : ℚ⟦X⟧) : Prop := 0 ≤ A ∧ ∀ i, i ≤ d → 0 < coeff i A

theorem PosUpTo.one : PosUpTo 0 (1 : ℚ⟦X⟧) := by
  refine ⟨zero_le_one, ?_⟩
  intro i hi
  rw [Nat.le_zero.1 hi, coeff_one, if_pos rfl]
  exact one_pos

theorem PosUpTo.mul {d1 d2 : Nat} {A B : ℚ⟦X⟧} (ha : PosUpTo d1 A) (hb : PosUpTo d2 B) :
    PosUpTo (d1 + d2) (A * B) := by
  refine ⟨mul_nonneg ha.1 hb.1, ?_⟩
  intro i hi
  rw [coeff_mul]
  apply Finset.sum_pos'
  · intro p _
    exact mul_nonneg (coeff_nonneg.1 ha.1 _) (coeff_nonneg.1 hb.1 _)
  · obtain h | h := Nat.le_total i d1
    · exact ⟨(i, 0), Finset.mem_antidiagonal.2 rfl, mul_pos (ha.2 _ h) (hb.2 _ (Nat.zero_le _))⟩
    · exact ⟨(d1, i - d1), Finset.mem_antidiagonal.2 (Nat.add_sub_cancel' h),
        mul_pos (ha.2 _ le_rfl) (hb.2 _ (Nat.sub_le_iff_le_add'.2 hi))⟩

theorem PosUpTo.pow {d : Nat} {A : ℚ⟦X⟧} (ha : PosUpTo d A) (n : Nat) : PosUpTo (d * n) (A ^ n) := by
  induction n with
  | zero =>
    rw [pow_zero, Nat.mul_zero]
    exact PosUpTo.one
  | succ n ih =>
    rw [pow_succ, Nat.mul_succ]
    exact ih.mul ha

noncomputable def Theta (F : ℚ⟦X⟧) : ℚ⟦X⟧ := PowerSeries.mk fun k => (k : ℚ) * coeff k F

theorem coeff_Theta (F : ℚ⟦X⟧) (k : Nat) : coeff k (Theta F) = (k : ℚ) * coeff k F :=
  coeff_mk _ _

/-- so the derivation laws are Mathlib's -/
theorem Theta_eq (F : ℚ⟦X⟧) : Theta F = X * derivative ℚ F := by
  ext k
  cases k with
  | zero => rw [coeff_Theta, Nat.cast_zero, zero_mul, coeff_zero_X_mul]
  | succ k => rw [coeff_Theta, coeff_succ_X_mul, coeff_derivative, Nat.cast_succ, mul_comm]

theorem Theta_coe : Theta = ⇑((X : ℚ⟦X⟧) • derivative ℚ) :=
  funext fun F => (Theta_eq F).trans (smul_eq_mul ..).symm

theorem Theta_one : Theta (1 : ℚ⟦X⟧) = 0 := by
  rw [Theta_coe, Derivation.map_one_eq_zero]

theorem Theta_mul (A B : ℚ⟦X⟧) : Theta (A * B) = Theta A * B + A * Theta B := by
  rw [Theta_coe, Derivation.leibniz, smul_eq_mul, smul_eq_mul, add_comm, mul_comm]

theorem Theta_pow (A : ℚ⟦X⟧) (n : Nat) :
    Theta (A ^ n) = C (n : ℚ) * A ^ (n - 1) * Theta A := by
  rw [Theta_coe, Derivation.leibniz_pow, nsmul_eq_mul, smul_eq_mul, map_natCast, mul_assoc]

theorem Theta_list_sum (l : List ℚ⟦X⟧) : Theta l.sum = (l.map Theta).sum := by
  rw [Theta_coe, map_list_sum]

/-- Leibniz rule over a list product, the other factors expressed through `List.eraseIdx` -/
theorem Theta_prod_map {α} (f : α → ℚ⟦X⟧) (l : List α) :
    Theta (l.map f).prod =
      (l.zipIdx.map fun p => Theta (f p.1) * ((l.eraseIdx p.2).map f).prod).sum := by
  induction l with
  | nil => rw [List.map_nil, List.prod_nil, Theta_one, List.zipIdx_nil, List.map_nil, List.sum_nil]
  | cons a t ih =>
    rw [List.map_cons, List.prod_cons, Theta_mul, ih, sum_zipIdx_eraseIdx_cons fun x l => Theta (f x) * (l.map f).prod,
      ← List.sum_map_mul_left]
    refine congrArg₂ _ rfl (congrArg List.sum (List.map_congr_left fun p _ => ?_))
    rw [List.map_cons, List.prod_cons, mul_left_comm]

def massBound (b : Elem → Rat) (c : List (Elem × Nat)) : Rat :=
  (c.map fun x => (x.2 : Rat) * b x.1).sum

theorem massBound_cons (b : Elem → ℚ) (x : Elem × Nat) (c : List (Elem × Nat)) :
    massBound b (x :: c) = (x.2 : ℚ) * b x.1 + massBound b c := by
  rw [massBound, List.map_cons, List.sum_cons, ← massBound]

theorem probOf_nn {Pf : Elem → ℚ⟦X⟧} (c : List (Elem × Nat)) (hP : ∀ x ∈ c, 0 ≤ Pf x.1) :
    0 ≤ probOf Pf c :=
  List.prod_nonneg fun A hA => by
    obtain ⟨x, hx, rfl⟩ := List.mem_map.1 hA
    exact pow_nonneg (hP x hx) _

theorem masswOf_mono {Pf A B : Elem → ℚ⟦X⟧} (c : List (Elem × Nat)) (hP : ∀ x ∈ c, 0 ≤ Pf x.1)
    (h : ∀ x ∈ c, A x.1 ≤ B x.1) : masswOf Pf A c ≤ masswOf Pf B c := by
  induction c with
  | nil =>
    -- by rewriting: left to unification, the kernel unfolds the multiplication of power series looking for `A = B`
    rw [masswOf_nil, masswOf_nil]
  | cons x c ih =>
    have hx := hP x List.mem_cons_self
    have hc : ∀ y ∈ c, 0 ≤ Pf y.1 := fun y hy => hP y (List.mem_cons_of_mem _ hy)
    rw [masswOf_cons, masswOf_cons]
    exact add_le_add
      (mul_le_mul_of_nonneg_right
        (mul_le_mul_of_nonneg_left (h x List.mem_cons_self) (mul_nonneg (Nat.cast_nonneg _) (pow_nonneg hx _)))
        (probOf_nn c hc))
      (mul_le_mul_of_nonneg_left (ih hc fun y hy => h y (List.mem_cons_of_mem _ hy)) (pow_nonneg hx _))

theorem masswOf_affine (Pf : Elem → ℚ⟦X⟧) (b : Elem → ℚ) (d : ℚ) (c : List (Elem × Nat)) :
    masswOf Pf (fun e => C (b e) * Pf e + C d * Theta (Pf e)) c =
      C (massBound b c) * probOf Pf c + C d * Theta (probOf Pf c) := by
  induction c with
  | nil => rw [masswOf_nil, probOf_nil, Theta_one, mul_zero, add_zero, massBound, List.map_nil, List.sum_nil,
      RingHom.map_zero, zero_mul]
  | cons x c ih =>
    rw [masswOf_cons, ih, probOf_cons, Theta_mul, Theta_pow, massBound_cons, RingHom.map_add,
      RingHom.map_mul, map_natCast]
    linear_combination (C (b x.1) * probOf Pf c) * natCast_mul_pow_pred (Pf x.1) x.2

end Chem
