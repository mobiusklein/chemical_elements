import ChemProofs.Model.Brain
import ChemProofs.Spec.IsoDist
import ChemProofs.Lemmas.BrainInv
import Mathlib.RingTheory.PowerSeries.Basic
/-
Shared vocabulary of the C03 proofs (BRAIN = Newton identities over exact rationals).
Nothing is proved here; only definitions used to *state* the lemmas of the other `Brain*` files.
-/
namespace Chem

/-- the power series whose coefficients are the entries of a coefficient list (0 beyond the end) -/
noncomputable def toPS (l : List Rat) : PowerSeries Rat := PowerSeries.mk fun i => l.getD i 0

/-- the power series `Σ (−1)^i e_i x^i` of a list of (sign-alternated) elementary symmetric
    polynomials: if `esp = vietes (reverse P)` this is `P(x) / P(0)` -/
noncomputable def fE (esp : List Rat) : PowerSeries Rat :=
  PowerSeries.mk fun i => (-1 : Rat) ^ i * esp.getD i 0

/-- Domain condition of the BRAIN correspondence: a gap-free isotope ladder that starts at the
    key `elemNum` (this is what the key walk of `isotopic_coefficients` visits, defect D5), whose
    lightest isotope is the reference (shift 0, i.e. the most abundant) one, with the recorded
    min/max shifts those of the ladder. -/
structure Dom (e : Elem) : Prop where
  ne : e.isos ≠ []
  key : ∀ j (h : j < e.isos.length), (e.isos[j]).key = e.elemNum + j
  shift : ∀ j (h : j < e.isos.length), (e.isos[j]).shift = (j : Int)
  minShift : e.minShift = 0
  maxShift : e.maxShift = (e.isos.length : Int) - 1

/-- the constant coefficient `c₀ₑ` of the element polynomial (abundance of the lightest isotope) -/
def c0 (e : Elem) (one : Rat) : Rat := (Spec.elemPoly e one false).getD 0 0

/-- what the BRAIN constants of one element must satisfy for the probability vector up to `order`:
    `esp` is the normalised sign-alternated coefficient list of the element polynomial (possibly
    zero-padded), `ps` is a Newton-consistent power-sum prefix of length ≥ order + 1 -/
structure GoodPhi (e : Elem) (one : Rat) (order : Nat) (phi : Phi) : Prop where
  esp : ∀ i, phi.elem.esp.getD i 0 = altSign i * (Spec.elemPoly e one false).getD i 0 / c0 e one
  inv : PsInv phi.elem.esp phi.elem.ps
  len : order + 1 ≤ phi.elem.ps.length

end Chem
