import ChemProofs.Lemmas.BrainDefs
import Mathlib.Tactic.LinearCombination
/-
The two generating series of a composition `{e ↦ nₑ}` for an arbitrary assignment of a pair of
series `(Pf e, Mf e)` to every element: `probOf = ∏ Pf e ^ nₑ` and its "derivative in the
direction `Mf`", `masswOf = Σₑ nₑ · Pf e ^ (nₑ−1) · Mf e · ∏_{e'≠e} Pf e' ^ nₑ'`.  Everything else
about them follows from the two `cons` equations (the product rule).
-/
namespace Chem

/-- every summand sees the list without its own position (`masswOf`, `leib_eq_sum`, `Theta_prod_map` are such sums) -/
theorem sum_zipIdx_eraseIdx_cons {α M} [Add M] [Zero M] (F : α → List α → M) (a : α) (l : List α) :
    ((a :: l).zipIdx.map fun p => F p.1 ((a :: l).eraseIdx p.2)).sum =
      F a l + (l.zipIdx.map fun p => F p.1 (a :: l.eraseIdx p.2)).sum := by
  rw [List.zipIdx_cons, List.zipIdx_succ, List.map_cons, List.sum_cons, List.map_map]
  rfl

theorem coeff_toPS (l : List Rat) (i : Nat) : PowerSeries.coeff i (toPS l) = l.getD i 0 :=
  PowerSeries.coeff_mk _ _

theorem constantCoeff_toPS (p : List Rat) : PowerSeries.constantCoeff (toPS p) = p.getD 0 0 := by
  rw [← PowerSeries.coeff_zero_eq_constantCoeff_apply, coeff_toPS]

/-- `n·a^(n−1)·a = n·a^n`, also for `n = 0`: all that is needed of the truncated exponent in `masswOf` -/
theorem natCast_mul_pow_pred {R} [Semiring R] (a : R) (n : Nat) :
    (n : R) * a ^ (n - 1) * a = n * a ^ n := by
  cases n with
  | zero => rw [Nat.cast_zero, zero_mul, zero_mul]
  | succ k => rw [Nat.add_sub_cancel, mul_assoc, ← pow_succ]

namespace C03Series
open PowerSeries

noncomputable def probOf (Pf : Elem → ℚ⟦X⟧) (c : List (Elem × Nat)) : ℚ⟦X⟧ :=
  (c.map fun x => Pf x.1 ^ x.2).prod

noncomputable def masswOf (Pf Mf : Elem → ℚ⟦X⟧) (c : List (Elem × Nat)) : ℚ⟦X⟧ :=
  (c.zipIdx.map fun (p : (Elem × Nat) × Nat) =>
    (p.1.2 : ℚ⟦X⟧) * Pf p.1.1 ^ (p.1.2 - 1) * Mf p.1.1 * probOf Pf (c.eraseIdx p.2)).sum

variable (Pf Mf : Elem → ℚ⟦X⟧)

/- As lemmas, not `rfl` at the point of use: asked whether `masswOf Pf Mf [] = masswOf Pf Mf' []` the
   kernel compares the two summand functions through `MvPowerSeries` before it unfolds the sum. -/
theorem probOf_nil : probOf Pf [] = 1 := rfl

theorem masswOf_nil : masswOf Pf Mf [] = 0 := rfl

theorem probOf_cons (x : Elem × Nat) (c : List (Elem × Nat)) :
    probOf Pf (x :: c) = Pf x.1 ^ x.2 * probOf Pf c :=
  List.prod_cons

theorem masswOf_cons (x : Elem × Nat) (c : List (Elem × Nat)) :
    masswOf Pf Mf (x :: c) =
      (x.2 : ℚ⟦X⟧) * Pf x.1 ^ (x.2 - 1) * Mf x.1 * probOf Pf c +
        Pf x.1 ^ x.2 * masswOf Pf Mf c := by
  unfold masswOf
  rw [sum_zipIdx_eraseIdx_cons fun y l => (y.2 : ℚ⟦X⟧) * Pf y.1 ^ (y.2 - 1) * Mf y.1 * probOf Pf l,
    ← List.sum_map_mul_left]
  refine congrArg₂ _ rfl (congrArg List.sum (List.map_congr_left fun p _ => ?_))
  rw [probOf_cons, mul_left_comm]

theorem probOf_congr {Pf Pf' : Elem → ℚ⟦X⟧} (c : List (Elem × Nat))
    (h : ∀ x ∈ c, Pf x.1 = Pf' x.1) : probOf Pf c = probOf Pf' c := by
  unfold probOf
  exact congrArg List.prod (List.map_congr_left fun x hx => by rw [h x hx])

theorem masswOf_congr {Pf Pf' Mf Mf' : Elem → ℚ⟦X⟧} (c : List (Elem × Nat))
    (hP : ∀ x ∈ c, Pf x.1 = Pf' x.1) (hM : ∀ x ∈ c, Mf x.1 = Mf' x.1) :
    masswOf Pf Mf c = masswOf Pf' Mf' c := by
  induction c with
  | nil => rw [masswOf_nil, masswOf_nil]
  | cons x c ih =>
    rw [masswOf_cons, masswOf_cons, hP x List.mem_cons_self, hM x List.mem_cons_self,
      probOf_congr c fun y hy => hP y (List.mem_cons_of_mem _ hy),
      ih (fun y hy => hP y (List.mem_cons_of_mem _ hy)) fun y hy => hM y (List.mem_cons_of_mem _ hy)]

/-- `∏ scₑ^nₑ`: the factor both series of a composition take when every element's pair is scaled by `scₑ` (`probOf_scale`,
    `masswOf_scale`).  At `scₑ = c₀ₑ` it is the denominator of the factor `κ` the generator's two vectors carry. -/
def scaleConst (sc : Elem → ℚ) (c : List (Elem × Nat)) : ℚ := (c.map fun x => sc x.1 ^ x.2).prod

theorem scaleConst_cons (sc : Elem → ℚ) (x : Elem × Nat) (c : List (Elem × Nat)) :
    scaleConst sc (x :: c) = sc x.1 ^ x.2 * scaleConst sc c :=
  List.prod_cons

theorem scaleConst_ne_zero {sc : Elem → ℚ} {c : List (Elem × Nat)} (h : ∀ x ∈ c, sc x.1 ≠ 0) :
    scaleConst sc c ≠ 0 :=
  List.prod_ne_zero fun h0 => by
    obtain ⟨x, hx, hx0⟩ := List.mem_map.mp h0
    exact pow_ne_zero _ (h x hx) hx0

theorem probOf_scale (sc : Elem → ℚ) (c : List (Elem × Nat)) :
    probOf (fun e => C (sc e) * Pf e) c = C (scaleConst sc c) * probOf Pf c := by
  induction c with
  -- `RingHom.map_one` … by name, here and below: the generic `map_one` … search the hom-class hierarchy at every use
  | nil => rw [probOf_nil, probOf_nil, scaleConst, List.map_nil, List.prod_nil, RingHom.map_one, mul_one]
  | cons x c ih =>
    rw [probOf_cons, probOf_cons, scaleConst_cons, ih, mul_pow, RingHom.map_mul, RingHom.map_pow]
    ring

theorem masswOf_scale (sc : Elem → ℚ) (c : List (Elem × Nat)) :
    masswOf (fun e => C (sc e) * Pf e) (fun e => C (sc e) * Mf e) c =
      C (scaleConst sc c) * masswOf Pf Mf c := by
  induction c with
  | nil => rw [masswOf_nil, masswOf_nil, mul_zero]
  | cons x c ih =>
    rw [masswOf_cons, masswOf_cons, scaleConst_cons, ih, probOf_scale, RingHom.map_mul,
      RingHom.map_pow]
    linear_combination (Pf x.1 ^ (x.2 - 1) * Mf x.1 * C (scaleConst sc c) * probOf Pf c) *
      natCast_mul_pow_pred (C (sc x.1)) x.2

/-- `Pₑ` : probability series of one atom of `e` (the spec's coefficient list, as a power series) -/
noncomputable def P (one : Rat) (e : Elem) : ℚ⟦X⟧ := toPS (Spec.elemPoly e one false)

/-- `Mₑ` : mass-weighted series of one atom of `e` -/
noncomputable def M (one : Rat) (e : Elem) : ℚ⟦X⟧ := toPS (Spec.elemPoly e one true)

noncomputable def probSeries (one : Rat) (c : List (Elem × Nat)) : ℚ⟦X⟧ :=
  (c.map fun x => P one x.1 ^ x.2).prod

/-- the sum runs over the positions of the composition, "the other elements" are the list with that
    position erased -/
noncomputable def masswSeries (one : Rat) (c : List (Elem × Nat)) : ℚ⟦X⟧ :=
  (c.zipIdx.map fun (p : (Elem × Nat) × Nat) =>
    (p.1.2 : ℚ⟦X⟧) * P one p.1.1 ^ (p.1.2 - 1) * M one p.1.1 * probSeries one (c.eraseIdx p.2)).sum

theorem probSeries_eq_probOf (one : Rat) (c : List (Elem × Nat)) :
    probSeries one c = probOf (P one) c := rfl

theorem masswSeries_eq_masswOf (one : Rat) (c : List (Elem × Nat)) :
    masswSeries one c = masswOf (P one) (M one) c := rfl

end C03Series
end Chem
