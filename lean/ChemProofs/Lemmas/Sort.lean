import ChemProofs.Lemmas.Sorted
/-
The model sorts by insertion in three places: `insertSorted`/`stableSort` over an arbitrary Boolean comparison
(`Model/BuildRs.lean`), `insertKey`/`sortEnts` by key (`Model/Formula.lean`) and `insertByMz`/`sortByMz` by m/z
(`Model/Brain.lean`).  The last two are the first at a particular comparison (`sortEnts_eq` in `Props/C07.lean`,
`sortByMz_eq` in `Lemmas/CutSort.lean`), so the facts are proved once, here, for `stableSort lt`.

"Sorted" is the weak form `SortedBy lt`: no later element is `lt` an earlier one.  Insertion before the first
greater element produces it for every `lt` that is asymmetric and whose negation is transitive (`StrictWeak`);
that two such lists which are permutations of each other are equal is core's `List.Perm.eq_of_pairwise`.
For such an `lt` the sort also commutes with filtering (`filter_stableSort`); `Lemmas/BuildRs.lean` uses that on `data/build.rs`.
Core Lean only.
-/
namespace Chem
variable {α : Type} (lt : α → α → Bool)

abbrev SortedBy (l : List α) : Prop := l.Pairwise (fun a b => lt b a = false)

theorem insertSorted_perm (x : α) (l : List α) : (insertSorted lt x l).Perm (x :: l) := by
  fun_induction insertSorted lt x l with
  | case1 | case2 => exact .refl _
  | case3 y ys _ ih => exact (ih.cons y).trans (.swap x y ys)

@[elab_as_elim]
theorem concat_induction {motive : List α → Prop} (nil : motive [])
    (concat : ∀ l x, motive l → motive (l ++ [x])) (l : List α) : motive l := by
  rw [← l.reverse_reverse]
  induction l.reverse with
  | nil => exact nil
  | cons x l ih => exact List.reverse_cons ▸ concat _ x ih

/-- the sort inserts the elements one after the other, so every fact about it is an induction from the far end -/
theorem stableSort_concat (l : List α) (x : α) : stableSort lt (l ++ [x]) = insertSorted lt x (stableSort lt l) := by
  simp [stableSort]

theorem stableSort_perm (l : List α) : (stableSort lt l).Perm l := by
  induction l using concat_induction with
  | nil => exact .refl _
  | concat l x ih =>
    rw [stableSort_concat]
    exact (insertSorted_perm lt x _).trans ((ih.cons x).trans (List.perm_append_singleton x l).symm)

/-- a strict weak order: what the comparison must be for insertion before the first greater element to sort -/
structure StrictWeak : Prop where
  asymm : ∀ {a b}, lt a b = true → lt b a = false
  ntrans : ∀ {a b c}, lt b a = false → lt c b = false → lt c a = false

theorem StrictWeak.of_strictTotal {κ : Type} {r : κ → κ → Bool} (irrefl : ∀ a, r a a = false)
    (trans : ∀ a b c, r a b = true → r b c = true → r a c = true)
    (connected : ∀ a b, r a b = false → r b a = false → a = b) (f : α → κ) :
    StrictWeak fun a b => r (f a) (f b) where
  asymm {a b} h := by
    cases h' : r (f b) (f a)
    · rfl
    · rw [← irrefl (f a), ← trans _ _ _ h h']
  ntrans {a b c} h1 h2 := by
    cases h3 : r (f c) (f a)
    · rfl
    · cases h4 : r (f a) (f b)
      · rw [← connected _ _ h4 h1, h3] at h2
        cases h2
      · rw [trans _ _ _ h3 h4] at h2
        cases h2

variable {lt}

theorem insertSorted_sorted (h : StrictWeak lt) (x : α) {l : List α} (hl : SortedBy lt l) :
    SortedBy lt (insertSorted lt x l) := by
  fun_induction insertSorted lt x l with
  | case1 => exact List.pairwise_singleton _ _
  | case2 y ys hxy =>
    refine List.pairwise_cons.2 ⟨fun z hz => ?_, hl⟩
    rcases List.mem_cons.1 hz with rfl | hz
    · exact h.asymm hxy
    · exact h.ntrans (h.asymm hxy) ((List.pairwise_cons.1 hl).1 z hz)
  | case3 y ys hxy ih =>
    obtain ⟨hy, hys⟩ := List.pairwise_cons.1 hl
    refine List.pairwise_cons.2 ⟨fun z hz => ?_, ih hys⟩
    rcases List.mem_cons.1 ((insertSorted_perm lt x ys).subset hz) with rfl | hz
    · simpa using hxy
    · exact hy z hz

theorem stableSort_sorted (h : StrictWeak lt) (l : List α) : SortedBy lt (stableSort lt l) := by
  induction l using concat_induction with
  | nil => exact .nil
  | concat l x ih => exact stableSort_concat lt l x ▸ insertSorted_sorted h x ih

/-- an element that nothing in the list exceeds goes to the end, behind its equals: the step of stability -/
theorem insertSorted_append (x : α) {l : List α} (hx : ∀ y ∈ l, lt x y = false) :
    insertSorted lt x l = l ++ [x] := by
  induction l with
  | nil => rfl
  | cons y ys ih =>
    simp only [insertSorted, hx y List.mem_cons_self, Bool.false_eq_true, if_false, List.cons_append]
    rw [ih fun z hz => hx z (List.mem_cons_of_mem _ hz)]

theorem stableSort_id {l : List α} (hs : SortedBy lt l) : stableSort lt l = l := by
  induction l using concat_induction with
  | nil => rfl
  | concat l x ih =>
    obtain ⟨hl, _, hx⟩ := List.pairwise_append.1 hs
    rw [stableSort_concat, ih hl, insertSorted_append x fun y hy => hx y hy x List.mem_cons_self]

theorem insertSorted_map {β : Type} (f : β → α) (x : β) (l : List β) :
    insertSorted lt (f x) (l.map f) = (insertSorted (fun a b => lt (f a) (f b)) x l).map f := by
  induction l with
  | nil => rfl
  | cons y ys ih =>
    simp only [List.map_cons, insertSorted]
    split
    · rfl
    · rw [ih]
      rfl

theorem stableSort_map {β : Type} (f : β → α) (l : List β) :
    stableSort lt (l.map f) = (stableSort (fun a b => lt (f a) (f b)) l).map f := by
  induction l using concat_induction with
  | nil => rfl
  | concat l x ih =>
    rw [List.map_append, List.map_singleton, stableSort_concat, stableSort_concat, ih, insertSorted_map]

theorem stableSort_map_of_respects {β : Type} {lt' : β → β → Bool} (g : β → α)
    (hg : ∀ a b, lt (g a) (g b) = lt' a b) (l : List β) :
    stableSort lt (l.map g) = (stableSort lt' l).map g := by
  rw [stableSort_map, funext fun a => funext (hg a)]

theorem StrictWeak.lt_of_lt_of_not_lt (h : StrictWeak lt) {x y z : α} (hxy : lt x y = true) (hzy : lt z y = false) :
    lt x z = true := by
  cases hxz : lt x z
  · rw [h.ntrans hzy hxz] at hxy
    cases hxy
  · rfl

theorem insertSorted_cons (x : α) : ∀ l : List α, (∀ z ∈ l, lt x z = true) → insertSorted lt x l = x :: l
  | [], _ => rfl
  | y :: l, h => by rw [insertSorted, if_pos (h y List.mem_cons_self)]

theorem filter_insertSorted (h : StrictWeak lt) (q : α → Bool) (x : α) {acc : List α} (hs : SortedBy lt acc) :
    (insertSorted lt x acc).filter q = if q x then insertSorted lt x (acc.filter q) else acc.filter q := by
  induction acc with
  | nil => cases hq : q x <;> simp [insertSorted, hq]
  | cons y ys ih =>
    obtain ⟨hy, hs⟩ := List.pairwise_cons.1 hs
    rw [insertSorted]
    split
    · rename_i hxy
      -- `x` is below `y`, hence below whatever of `y :: ys` the filter keeps
      have : insertSorted lt x ((y :: ys).filter q) = x :: (y :: ys).filter q :=
        insertSorted_cons x _ fun z hz => by
          rcases List.mem_cons.1 (List.mem_filter.1 hz).1 with rfl | hz
          · exact hxy
          · exact h.lt_of_lt_of_not_lt hxy (hy z hz)
      rw [this, List.filter_cons (x := x)]
    · rename_i hxy
      rw [List.filter_cons, ih hs, List.filter_cons (x := y)]
      by_cases hqy : q y = true <;> by_cases hqx : q x = true <;> simp [hqy, hqx, insertSorted, hxy]

theorem filter_stableSort (h : StrictWeak lt) (q : α → Bool) (l : List α) :
    (stableSort lt l).filter q = stableSort lt (l.filter q) := by
  induction l using concat_induction with
  | nil => rfl
  | concat l x ih =>
    rw [stableSort_concat, filter_insertSorted h q x (stableSort_sorted h l), ih, List.filter_append]
    cases hq : q x
    · simp [hq]
    · simp [hq, stableSort_concat]

/-- comparison by a text key, in the order of `data/build.rs` (which `keyLt` shares), is such an order -/
theorem lexLt_strictWeak {β : Type} (f : β → List Nat) : StrictWeak fun a b => lexLt (f a) (f b) :=
  .of_strictTotal lexLt_irrefl lexLt_trans lexLt_connected f

end Chem
