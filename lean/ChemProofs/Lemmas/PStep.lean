import ChemProofs.Model.Formula
import ChemProofs.Lemmas.Res
/- The parts of the parser machine of `Model/Formula.lean`, one by one: character classes, `slice`, the lookups of a
flush, the flush itself (`flushAt`), `pstep` by state, `ploop`.  Core Lean only. -/
namespace Chem

/-- a character that the `Element` and `Group` states of the machine pass over -/
def inert (cc : CharClass) (c : Nat) : Bool :=
  !isAsciiUpper c && !cc.numeric c && c != 91 && c != 40 && c != 41

theorem numeric_of_digit {cc : CharClass} (hcc : cc.AsciiOK) {c : Nat} (h : isAsciiDigit c = true) :
    cc.numeric c = true := by
  have hlt : c < 128 := by
    simp only [isAsciiDigit, Bool.and_eq_true, decide_eq_true_eq] at h
    omega
  exact (hcc c hlt).2.1.trans h

theorem digit_facts {c : Nat} (h : isAsciiDigit c = true) :
    isAsciiAlpha c = false ∧ c ≠ 93 ∧ c ≠ 40 ∧ c ≠ 41 := by
  simp only [isAsciiDigit, Bool.and_eq_true, decide_eq_true_eq] at h
  have lo {n} (hn : n < 48) : c ≠ n := Nat.ne_of_gt (Nat.lt_of_lt_of_le hn h.1)
  have hi {n} (hn : 57 < n) : ¬n ≤ c := Nat.not_le.2 (Nat.lt_of_le_of_lt h.2 hn)
  refine ⟨?_, Nat.ne_of_lt (Nat.lt_of_le_of_lt h.2 (by decide)), lo (by decide), lo (by decide)⟩
  rw [isAsciiAlpha, isAsciiUpper, isAsciiLower, decide_eq_false (hi (by decide)), decide_eq_false (hi (by decide))]
  rfl

theorem isUpperStart_eq (c : Nat) : isUpperStart c = isAsciiUpper c := by
  unfold isUpperStart isAsciiAlpha
  cases isAsciiUpper c <;> simp

theorem upperStart_facts {c : Nat} (h : isUpperStart c = true) :
    isAsciiAlpha c = true ∧ isAsciiUpper c = true ∧ c ≠ 40 ∧ c ≠ 41 := by
  simp only [isUpperStart, Bool.and_eq_true] at h
  have h65 : 65 ≤ c := of_decide_eq_true (Bool.and_eq_true_iff.1 h.2).1
  have lo {n} (hn : n < 65) : c ≠ n := Nat.ne_of_gt (Nat.lt_of_lt_of_le hn h65)
  exact ⟨h.1, h.2, lo (by decide), lo (by decide)⟩

theorem isUpperStart_of_upper {c : Nat} (h : isAsciiUpper c = true) : isUpperStart c = true :=
  (isUpperStart_eq c).trans h

/-- a character that begins a term: an upper-case letter or `(` -/
def Starts (c : Nat) : Prop := isUpperStart c = true ∨ c = 40

theorem starts_not_digit {c : Nat} (hc : Starts c) : isAsciiDigit c = false := by
  rcases hc with h | rfl
  · have := (upperStart_facts h).2.1
    simp only [isAsciiUpper, Bool.and_eq_true, decide_eq_true_eq] at this
    simp only [isAsciiDigit, Bool.and_eq_false_iff, decide_eq_false_iff_not]; omega
  · rfl

theorem starts_not_numeric {cc : CharClass} (hcc : cc.AsciiOK) {c : Nat} (hc : Starts c) :
    cc.numeric c = false := by
  have hlt : c < 128 := by
    rcases hc with h | rfl
    · have := (upperStart_facts h).2.1
      simp only [isAsciiUpper, Bool.and_eq_true, decide_eq_true_eq] at this
      omega
    · decide
  exact (hcc c hlt).2.1.trans (starts_not_digit hc)

theorem starts_ne_close {c : Nat} (hc : Starts c) : c ≠ 41 := by
  rcases hc with h | rfl
  · exact (upperStart_facts h).2.2.2
  · decide

theorem slice_mid {s pre mid post : List Nat} {a b : Nat} (hs : s = pre ++ mid ++ post)
    (ha : a = pre.length) (hb : b = pre.length + mid.length) : slice s a b = .ok mid := by
  subst hs ha hb
  have h1 : pre.length ≤ pre.length + mid.length ∧ pre.length + mid.length ≤ (pre ++ mid ++ post).length :=
    ⟨Nat.le_add_right _ _, by rw [List.length_append, List.length_append]; exact Nat.le_add_right _ _⟩
  rw [slice, if_pos h1, ← List.length_append, List.take_left, List.drop_left]

theorem slice_ok {s : List Nat} {a b : Nat} {r : List Nat} (h : slice s a b = .ok r) :
    a ≤ b ∧ b ≤ s.length ∧ r = (s.take b).drop a := by
  unfold slice at h
  split at h
  · rename_i hh
    cases h
    exact ⟨hh.1, hh.2, rfl⟩
  · cases h

/-! Slices of a text `pre ++ (pieces ++ post)` at offsets that are sums of lengths, the form in which the offsets
of a machine state come (`Pend.state`, `Lemmas/Pend.lean`): the arithmetic is done here. -/

theorem slice_first {s pre m post : List Nat} (hs : s = pre ++ (m ++ post)) :
    slice s pre.length (pre.length + m.length) = .ok m :=
  slice_mid (by rw [hs, List.append_assoc]) rfl rfl

theorem slice_stage {s pre a m post : List Nat} (hs : s = pre ++ ((a ++ m) ++ post)) :
    slice s (pre.length + a.length) (pre.length + (a ++ m).length) = .ok m :=
  slice_mid (pre := pre ++ a) (post := post) (by rw [hs]; simp only [List.append_assoc]) List.length_append.symm
    (by rw [List.length_append, List.length_append, Nat.add_assoc])

theorem slice_after {s pre a m post : List Nat} {c : Nat} (hs : s = pre ++ ((a ++ c :: m) ++ post)) :
    slice s (pre.length + a.length + 1) (pre.length + (a ++ c :: m).length) = .ok m := by
  rw [List.append_cons] at hs ⊢
  rw [Nat.add_assoc, ← List.length_singleton (a := c), ← List.length_append (as := a)]
  exact slice_stage hs

section
variable {T : Table} {s : List Nat}

theorem lookupElem_ofOpt (p : PState) : lookupElem T s p =
    (slice s p.es p.ee).bind fun w => (Res.ofOpt (T.find? w)).bind fun e => .ok (e, { p with es := 0, ee := 0 }) := by
  unfold lookupElem
  congr; funext w
  cases T.find? w <;> rfl

theorem elemCount_ofOpt (p : PState) : elemCount s p =
    (slice s p.cs p.ce).bind fun ds => (Res.ofOpt (parseI32 ds)).bind fun n => .ok (n, { p with cs := 0, ce := 0 }) := by
  unfold elemCount
  congr; funext w
  cases parseI32 w <;> rfl

theorem groupCount_ofOpt (p : PState) : groupCount s p =
    (slice s p.gcs p.gce).bind fun ds => (Res.ofOpt (parseI32 ds)).bind fun n => .ok (n, { p with gcs := 0, gce := 0 }) := by
  unfold groupCount
  congr; funext w
  cases parseI32 w <;> rfl

theorem isoNumber_ofOpt (p : PState) : isoNumber s p = (slice s p.is p.ie).bind fun ds => Res.ofOpt (parseU16 ds) := by
  unfold isoNumber
  congr; funext w
  cases parseU16 w <;> rfl

end

theorem mkKey_zero (e : Elem) : mkKey e 0 = .ok (e.sym, 0) := by
  simp [mkKey]

theorem mkKey_iso (e : Elem) (k : Nat) (h : (e.iso? k).isSome = true) : mkKey e k = .ok (e.sym, k) := by
  cases hh : e.iso? k with
  | none => rw [hh] at h; cases h
  | some v => simp [mkKey, hh]

theorem mkKey_ok {e : Elem} {iso : Nat} {k : Key} (h : mkKey e iso = .ok k) :
    k = (e.sym, iso) ∧ (iso = 0 ∨ (e.iso? iso).isSome = true) := by
  unfold mkKey at h
  split at h
  · cases h
  · rename_i hh
    cases h
    refine ⟨rfl, ?_⟩
    cases hi : e.iso? iso with
    | none => exact Or.inl (by simpa [hi] using hh)
    | some _ => exact Or.inr rfl

/-! `pstep` (on a character that ends the pending term) and `pfinish` (at the end of the text) flush the
pending term by the same code, which the model writes out twice.  `flushAt` names it; `pfinish_eq` and the
equations of `pstep` by state are where `pfinish` and `pstep` are unfolded. -/

def flushAt (T : Table) (sub : List Nat → Res Ents) (s : List Nat) (p : PState) (acc : Ents) (j : Nat) :
    Res (PState × Ents) :=
  match p.st with
  | .element => flushElem T s { p with ee := j } acc
  | .count => flushCount T s { p with ce := j } acc
  | .isotopeToCount => flushIso T s p acc
  | .groupToGroupCount =>
    (slice s p.gs p.ge).bind fun body => (sub body).bind fun g =>
      .ok ({ p with gs := 0, ge := 0 }, acc.addFrom g 1)
  | .groupCount =>
    (slice s p.gs p.ge).bind fun body => (sub body).bind fun g =>
      (groupCount s { p with gce := j, gs := 0, ge := 0 }).bind fun x =>
        .ok (x.2, acc.addFrom (g.mapCounts (x.1 * ·)) 1)
  | _ => .err

section
variable {cc : CharClass} {T : Table} {sub : List Nat → Res Ents} {s : List Nat} {p : PState} {acc : Ents}
  {i c : Nat}

theorem pfinish_eq (T : Table) (sub : List Nat → Res Ents) (s : List Nat) (p : PState) (acc : Ents) :
    pfinish T sub s p acc = (flushAt T sub s p acc s.length).bind fun x => .ok x.2 := by
  unfold pfinish flushAt
  cases p.st <;> simp only [Res.bind_assoc, Res.ok_bind] <;> rfl

/-- what follows a flushed term in the states that hand over to `afterTerm` -/
def pnext (q : PState × Ents) (i c : Nat) (b : Bool) (u : Nat → Bool) : Res (PState × Ents) :=
  (afterTerm q.1 i c b u).bind fun q' => .ok (q', q.2)

theorem pstep_new (hst : p.st = .new) : pstep cc T sub s p acc i c =
    if isUpperStart c then .ok ({ p with es := i, st := .element }, acc)
    else if c == 40 then .ok ({ p with paren := p.paren + 1, gs := i + 1, st := .group }, acc)
    else .err := by
  simp only [pstep, hst]

theorem pstep_group (hst : p.st = .group) : pstep cc T sub s p acc i c =
    if c == 41 then
      if p.paren - 1 == 0 then .ok ({ p with paren := p.paren - 1, ge := i, st := .groupToGroupCount }, acc)
      else .ok ({ p with paren := p.paren - 1 }, acc)
    else if c == 40 then .ok ({ p with paren := p.paren + 1 }, acc)
    else .ok (p, acc) := by
  simp only [pstep, hst]

theorem pstep_isotope (hst : p.st = .isotope) : pstep cc T sub s p acc i c =
    if c == 93 then .ok ({ p with ie := i, st := .isotopeToCount }, acc)
    else if !cc.numeric c then .err
    else .ok (p, acc) := by
  simp only [pstep, hst]

theorem pstep_element (hst : p.st = .element) : pstep cc T sub s p acc i c =
    if isAsciiAlpha c then
      if isAsciiUpper c then
        (flushAt T sub s p acc i).bind fun q => .ok ({ q.1 with st := .element, es := i, ee := 0 }, q.2)
      else .ok (p, acc)
    else if cc.numeric c then .ok ({ p with ee := i, cs := i, st := .count }, acc)
    else if c == 91 then .ok ({ p with ee := i, is := i + 1, st := .isotope }, acc)
    else if c == 40 then
      (flushAt T sub s p acc i).bind fun q =>
        .ok ({ q.1 with paren := q.1.paren + 1, gs := i + 1, st := .group }, q.2)
    else .ok (p, acc) := by
  simp only [pstep, flushAt, hst]

theorem pstep_count (hst : p.st = .count) : pstep cc T sub s p acc i c =
    if !cc.numeric c then (flushAt T sub s p acc i).bind fun q => pnext q i c true isUpperStart
    else .ok (p, acc) := by
  simp only [pstep, flushAt, pnext, hst]

theorem pstep_isotopeToCount (hst : p.st = .isotopeToCount) : pstep cc T sub s p acc i c =
    if cc.numeric c then .ok ({ p with cs := i, st := .count }, acc)
    else (flushAt T sub s p acc i).bind fun q => pnext q i c false isAsciiUpper := by
  simp only [pstep, flushAt, pnext, hst]

theorem pstep_groupToGroupCount (hst : p.st = .groupToGroupCount) : pstep cc T sub s p acc i c =
    if !cc.numeric c then (flushAt T sub s p acc i).bind fun q => pnext q i c true isUpperStart
    else .ok ({ p with gcs := i, st := .groupCount }, acc) := by
  simp only [pstep, flushAt, pnext, hst, Res.bind_assoc, Res.ok_bind]

theorem pstep_groupCount (hst : p.st = .groupCount) : pstep cc T sub s p acc i c =
    if !cc.numeric c then (flushAt T sub s p acc i).bind fun q => pnext q i c true isUpperStart
    else .ok (p, acc) := by
  simp only [pstep, flushAt, pnext, hst, Res.bind_assoc, Res.ok_bind]

end

section
variable {cc : CharClass} {T : Table} {sub : List Nat → Res Ents} {s : List Nat}

theorem ploop_nil (i : Nat) (p : PState) (acc : Ents) : ploop cc T sub s [] i p acc = .ok (p, acc) := rfl

theorem ploop_cons (c : Nat) (rest : List Nat) (i : Nat) (p : PState) (acc : Ents) :
    ploop cc T sub s (c :: rest) i p acc =
      (pstep cc T sub s p acc i c).bind fun x => ploop cc T sub s rest (i + 1) x.1 x.2 := rfl

theorem ploop_cons_ok {c : Nat} {rest : List Nat} {i : Nat} {p p' : PState} {acc acc' : Ents}
    (h : pstep cc T sub s p acc i c = .ok (p', acc')) :
    ploop cc T sub s (c :: rest) i p acc = ploop cc T sub s rest (i + 1) p' acc' := by
  rw [ploop_cons, h]; rfl

theorem ploop_append_ok {a b : List Nat} {i : Nat} {p p' : PState} {acc acc' : Ents}
    (h : ploop cc T sub s a i p acc = .ok (p', acc')) :
    ploop cc T sub s (a ++ b) i p acc = ploop cc T sub s b (i + a.length) p' acc' := by
  induction a generalizing i p acc with
  | nil =>
    cases h
    rfl
  | cons c rest ih =>
    rw [ploop_cons] at h
    obtain ⟨x, hs, h⟩ := Res.bind_eq_ok.1 h
    rw [List.cons_append, ploop_cons, hs, Res.ok_bind, ih h, List.length_cons, Nat.add_assoc, Nat.add_comm 1]

/-! Inside a group the machine only counts parentheses. -/

theorem step_group_open {p : PState} {acc : Ents} (i : Nat) (hst : p.st = .group) :
    pstep cc T sub s p acc i 40 = .ok ({ p with paren := p.paren + 1 }, acc) := by
  simp [pstep_group hst]

theorem step_group_close_ne {p : PState} {acc : Ents} (i : Nat) (hst : p.st = .group) {d : Int}
    (hd : p.paren - 1 = d) (h : d ≠ 0) :
    pstep cc T sub s p acc i 41 = .ok ({ p with paren := d }, acc) := by
  subst hd
  simp [pstep_group hst, h]

theorem ploop_group_flat {w : List Nat} {p : PState} {acc : Ents} (i : Nat)
    (hst : p.st = .group) (hw : ∀ c ∈ w, c ≠ 40 ∧ c ≠ 41) :
    ploop cc T sub s w i p acc = .ok (p, acc) := by
  induction w generalizing i with
  | nil => rfl
  | cons c rest ih =>
    have hc := hw c List.mem_cons_self
    rw [ploop_cons_ok (p' := p) (acc' := acc) (by simp [pstep_group hst, hc.1, hc.2])]
    exact ih _ fun c hc => hw c (List.mem_cons_of_mem _ hc)

end

end Chem
