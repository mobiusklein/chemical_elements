import ChemProofs.Lemmas.BrainNewton
import ChemProofs.Lemmas.BrainSpecPS
import ChemProofs.Lemmas.BrainPopulate
/-
The probability vector.  The stored constants of a coefficient list `p` hold the coefficients of
`psOf (toPS p)` (`ps_coeff_of_esp`), `phi_for` adds them up to the power sums of `∏ Pₑ^nₑ` (`phiFor_ok`), and
`espOfPs` turns the power sums of a series `G` back into the coefficients of `G / G(0)` (`espOfPs_coeff`);
hence the vector is `κ · Spec.aggProb` (`probabilityVector_of_good`).  The mass vector (Lemmas/BrainMass.lean)
runs through the same three lemmas.
-/
namespace Chem
open PowerSeries C03Series

theorem ps_coeff_of_esp {p esp ps : List Rat} (hesp : ∀ i, esp.getD i 0 = altSign i * p.getD i 0 / p.getD 0 0)
    (hinv : PsInv esp ps) (hp0 : p.getD 0 0 ≠ 0) {k : Nat} (hk : k < ps.length) :
    ps.getD k 0 = coeff k (psOf (toPS p)) := by
  have h0 : esp.getD 0 0 = 1 := by
    rw [hesp 0, altSign_eq_pow, pow_zero, one_mul, div_self hp0]
  refine hinv.coeff_eq h0 ?_ hk
  rw [fE_of_esp hesp]
  exact (isPS_psOf (by rwa [constantCoeff_toPS])).const_mul _

theorem nthPs_of_good {consts : IsoConstants} {s : Sym} {phi : Phi} (hget : consts.get s = some phi)
    {p : List Rat} {order : Nat} (wm : Bool) (hg : GoodPP p order (phi.part wm))
    (hp0 : p.getD 0 0 ≠ 0) {k : Nat} (hk : k ≤ order) :
    nthPs consts s k wm = .ok (coeff k (psOf (toPS p))) := by
  have hlen : k < (phi.part wm).ps.length := Nat.lt_of_le_of_lt hk hg.len
  have hc := ps_coeff_of_esp hg.esp hg.inv hp0 hlen
  unfold nthPs
  rw [hget]
  cases wm
  all_goals
    simp only [Phi.part] at hlen hc
    simp only [Bool.false_eq_true, if_false, if_true]
    rw [if_pos hlen, hc]

theorem espOfPs_coeff {P G : ℚ⟦X⟧} (hG : IsPS G P) (hG0 : constantCoeff G ≠ 0) (order : ℕ)
    (V : Int) (hV : (order : Int) ≤ V) :
    (espOfPs (0 :: (List.range order).map fun i => coeff (i + 1) P) V).length = order + 1 ∧
    ∀ i, i ≤ order →
      (-1 : ℚ) ^ i * (espOfPs (0 :: (List.range order).map fun i => coeff (i + 1) P) V).getD i 0 =
        coeff i G / constantCoeff G := by
  generalize hPS : (0 : Rat) :: ((List.range order).map fun i => coeff (i + 1) P) = PS
  have hPSlen : PS.length = order + 1 := by
    rw [← hPS, List.length_cons, List.length_map, List.length_range]
  have hPSk : ∀ k, k < order + 1 → PS.getD k 0 = coeff k P := by
    intro k hk
    rw [← hPS]
    cases k with
    | zero => exact (hG.coeff_zero hG0).symm
    | succ k =>
      rw [List.getD_cons_succ, getD_range_map (Nat.lt_of_succ_lt_succ hk)]
  have hel := (espOfPs_length PS V).trans hPSlen
  refine ⟨hel, fun i hi => ?_⟩
  rw [div_eq_inv_mul, ← coeff_C_mul]
  exact (espOfPs_inv PS V).coeff_eq (by omega) (hG.const_mul _)
    (by rw [RingHom.map_mul, constantCoeff_C, inv_mul_cancel₀ hG0]) (fun k hk => hPSk k (hel ▸ hk))
    (hel ▸ Nat.lt_succ_of_le hi)

theorem isPS_probOf (Pf Ψ : Elem → ℚ⟦X⟧) (c : List (Elem × Nat)) (h : ∀ x ∈ c, IsPS (Pf x.1) (Ψ x.1)) :
    IsPS (probOf Pf c) (c.map fun x => C (x.2 : ℚ) * Ψ x.1).sum := by
  induction c with
  | nil =>
    rw [probOf_nil, List.map_nil, List.sum_nil]
    exact IsPS.one
  | cons x c ih =>
    rw [probOf_cons, List.map_cons, List.sum_cons, map_natCast]
    exact ((h x List.mem_cons_self).pow x.2).mul (ih fun y hy => h y (List.mem_cons_of_mem _ hy))

theorem constantCoeff_P (one : Rat) (e : Elem) : constantCoeff (P one e) = c0 e one :=
  constantCoeff_toPS _

theorem constantCoeff_probSeries (one : Rat) (c : List (Elem × Nat)) :
    constantCoeff (probSeries one c) = scaleConst (c0 · one) c := by
  unfold probSeries scaleConst
  rw [map_list_prod, List.map_map]
  refine congrArg List.prod (List.map_congr_left fun x _ => ?_)
  rw [Function.comp_apply, map_pow, constantCoeff_P]

theorem getD_zipIdx_map (l : List Rat) (f : Rat → Nat → Rat) (i : Nat) (hi : i < l.length) :
    (l.zipIdx.map fun (x, j) => f x j).getD i 0 = f (l.getD i 0) i := by
  rw [List.getD_eq_getElem _ _ (by rwa [List.length_map, List.length_zipIdx]), List.getD_eq_getElem _ _ hi,
    List.getElem_map, List.getElem_zipIdx, Nat.zero_add]

/-- the power-sum series of `∏ Pₑ^nₑ` (`isPS_probSeries`), which `phi_for` computes (`phiFor_ok`) -/
noncomputable def psTot (one : Rat) (c : List (Elem × Nat)) : ℚ⟦X⟧ :=
  (c.map fun x => C (x.2 : ℚ) * psOf (P one x.1)).sum

theorem isPS_probSeries {one : Rat} {c : List (Elem × Nat)} (hc0 : ∀ x ∈ c, c0 x.1 one ≠ 0) :
    IsPS (probSeries one c) (psTot one c) :=
  isPS_probOf (P one) (fun e => psOf (P one e)) c fun x hx =>
    isPS_psOf (by rw [constantCoeff_P]; exact hc0 x hx)

theorem coeff_psTot (one : Rat) (c : List (Elem × Nat)) (k : Nat) :
    coeff k (psTot one c) = (c.map fun y => coeff k (psOf (P one y.1)) * y.2).sum := by
  rw [psTot, map_list_sum, List.map_map]
  refine congrArg List.sum (List.map_congr_left fun y _ => ?_)
  rw [Function.comp_apply, coeff_C_mul, mul_comm]

/-- the sums of `phi_for` / `phi_mass_for`: stored power sums of the probability halves, weighted -/
theorem sumRes_nthPs {consts : IsoConstants} {c : List (Elem × Nat)} {one : Rat} {order : Nat}
    (hgood : GoodConsts consts c one order) (hc0 : ∀ x ∈ c, c0 x.1 one ≠ 0)
    (w : Elem × Nat → ℚ) {k : Nat} (hk : k ≤ order) :
    sumRes (c.map fun y => (nthPs consts y.1.sym k false).bind fun v => .ok (v * w y)) =
      .ok (c.map fun y => coeff k (psOf (P one y.1)) * w y).sum := by
  rw [List.map_congr_left (g := fun y => Res.ok (coeff k (psOf (P one y.1)) * w y)), sumRes_map_ok]
  intro y hy
  obtain ⟨phi, hget, hg⟩ := hgood y hy
  rw [nthPs_of_good hget false (hg false) (hc0 y hy) hk]
  rfl

theorem phiFor_ok {consts : IsoConstants} {c : List (Elem × Nat)} {one : Rat} {order : Nat}
    (hgood : GoodConsts consts c one order) (hc0 : ∀ x ∈ c, c0 x.1 one ≠ 0) {k : Nat}
    (hk : k ≤ order) : phiFor consts (toB c) k = .ok (coeff k (psTot one c)) := by
  unfold phiFor toB
  rw [List.map_map, coeff_psTot]
  exact (sumRes_nthPs hgood hc0 (fun y => ((y.2 : Int) : ℚ)) hk).trans
    (by simp only [Int.cast_natCast])

theorem probabilityVector_of_good (consts : IsoConstants) (c : List (Elem × Nat)) (one : Rat)
    (order : Nat) (V : Int) (base : Rat) (hV : (order : Int) ≤ V)
    (hc0 : ∀ x ∈ c, c0 x.1 one ≠ 0) (hgood : GoodConsts consts c one order) :
    probabilityVector consts (toB c) order V base = .ok ((List.range (order + 1)).map fun i =>
      base / scaleConst (c0 · one) c * (Spec.aggProb c one order).getD i 0) := by
  have hG0 : constantCoeff (probSeries one c) ≠ 0 := by
    rw [constantCoeff_probSeries]
    exact scaleConst_ne_zero hc0
  obtain ⟨hel, hcoef⟩ := espOfPs_coeff (isPS_probSeries hc0) hG0 order V hV
  unfold probabilityVector
  rw [mapRes_of_forall_ok _ (fun i => coeff (i + 1) (psTot one c)) _
    fun i hi => phiFor_ok hgood hc0 (List.mem_range.mp hi)]
  refine congrArg Res.ok (eq_range_map_of_getD (by rw [List.length_map, List.length_zipIdx, hel])
    fun i hi => ?_)
  rw [getD_zipIdx_map _ (fun x j => x * (base * altSign j)) i (hel ▸ hi), altSign_eq_pow,
    aggProb_closed c one order i (Nat.le_of_lt_succ hi), ← constantCoeff_probSeries]
  linear_combination base * hcoef i (Nat.le_of_lt_succ hi)

theorem baseIntensity_ne_zero (c : List (Elem × Nat)) {one : Rat} (hone : one ≠ 0)
    (hab : ∀ x ∈ c, ∀ i ∈ x.1.isos, i.abund ≠ 0) : baseIntensity (toB c) one ≠ 0 := by
  unfold baseIntensity
  rw [← List.prod_eq_foldl]
  refine List.prod_ne_zero fun h0 => ?_
  obtain ⟨y, hy, hv⟩ := List.mem_map.1 h0
  obtain ⟨x, hx, rfl⟩ := List.mem_map.1 hy
  revert hv
  dsimp only
  cases hf : x.1.iso? x.1.mostIso with
  | none => exact one_ne_zero
  | some i =>
    have hi : i ∈ x.1.isos := List.mem_of_find?_eq_some hf
    exact div_ne_zero (Int.cast_ne_zero.mpr (hab x hx i hi)) hone

/-- For a composition whose elements satisfy the domain condition `Dom` (with non-zero
    lightest abundance, and equal symbols meaning equal elements), the constants built by
    `populate` exist and the probability vector computed from them is, coefficient by coefficient
    up to `order ≤ maxVariants`, `κ · aggProb` with `κ = base / ∏ c₀ₑ^nₑ`. -/
theorem probabilityVector_spec (K : BrainConsts) (c : List (Elem × Nat)) (order : Nat) (base : Rat)
    (hdom : ∀ x ∈ c, Dom x.1) (hc0 : ∀ x ∈ c, c0 x.1 K.one ≠ 0)
    (hsym : ∀ x ∈ c, ∀ y ∈ c, x.1.sym = y.1.sym → x.1 = y.1)
    (hV : (order : Int) ≤ maxVariants (toB c)) :
    ∃ consts v, populate K (toB c) (order : Int) = .ok consts ∧
      probabilityVector consts (toB c) order (maxVariants (toB c)) base = .ok v ∧
      v.length = order + 1 ∧
      ∀ i, i ≤ order → v.getD i 0 =
        base / (c.map fun x => c0 x.1 K.one ^ x.2).prod * (Spec.aggProb c K.one order).getD i 0 := by
  obtain ⟨consts, hpop, hgood⟩ := populate_toB_good K c order hdom hsym
  exact ⟨consts, _, hpop, probabilityVector_of_good consts c K.one order _ base hV hc0 hgood,
    by rw [List.length_map, List.length_range], fun i hi => getD_range_map (Nat.lt_succ_of_le hi)⟩

end Chem
