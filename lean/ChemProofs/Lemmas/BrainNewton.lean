import ChemProofs.Lemmas.BrainPS
import ChemProofs.Lemmas.BrainSeries
/-
Newton's identities: coefficient-wise, for `F = fE esp = Σ (−1)^i e_i x^i` and `P = toPS ps`, the
relation `F·P + X·F' = 0` is exactly the recurrence of `nextPowerSum` (solved for `p_k`) and of
`nextEsp` (solved for `e_k`).
-/
namespace Chem
open PowerSeries

theorem altSign_eq_pow (i : Nat) : altSign i = (-1 : ℚ) ^ i := by
  rw [neg_one_pow_eq_pow_mod_two, altSign]
  rcases Nat.mod_two_eq_zero_or_one i with h | h <;> rw [h] <;> rfl

theorem altSign_mul_self (i : Nat) : altSign i * altSign i = 1 := by
  rw [altSign_eq_pow, ← mul_pow]
  simp

/-- `Finset.range n` is `List.range n` underneath, and `Finset.sum` the sum of the mapped list -/
theorem list_range_sum (g : ℕ → ℚ) (n : ℕ) :
    ((List.range n).map g).sum = ∑ j ∈ Finset.range n, g j := rfl

theorem coeff_fE (esp : List Rat) (i : Nat) : coeff i (fE esp) = (-1 : ℚ) ^ i * esp.getD i 0 :=
  coeff_mk _ _

theorem constantCoeff_fE (esp : List Rat) : constantCoeff (fE esp) = esp.getD 0 0 := by
  rw [← coeff_zero_eq_constantCoeff_apply, coeff_fE, pow_zero, one_mul]

/-- a normalised sign-alternated coefficient list (what `vietes` returns on the reversed list)
    has `fE = p(x) / p(0)` -/
theorem fE_of_esp {p esp : List Rat}
    (h : ∀ i, esp.getD i 0 = altSign i * p.getD i 0 / p.getD 0 0) :
    fE esp = C (p.getD 0 0)⁻¹ * toPS p := by
  ext i
  rw [coeff_fE, h i, coeff_C_mul, coeff_toPS, ← altSign_eq_pow, div_eq_mul_inv, ← mul_assoc, ← mul_assoc,
    altSign_mul_self, one_mul, mul_comm]

theorem coeff_succ_mul_split (A B : ℚ⟦X⟧) (k : ℕ) :
    coeff (k + 1) (A * B) =
      ∑ j ∈ Finset.range k, coeff (j + 1) A * coeff (k - j) B
        + coeff 0 A * coeff (k + 1) B + coeff (k + 1) A * coeff 0 B := by
  rw [coeff_mul, Finset.Nat.sum_antidiagonal_eq_sum_range_succ_mk, Finset.sum_range_succ,
    Finset.sum_range_succ']
  simp only [Nat.sub_zero, Nat.sub_self, Nat.add_sub_add_right]

theorem dvd_newton_of_coeff {F P : ℚ⟦X⟧} {N : ℕ} (hP0 : 0 < N → coeff 0 P = 0)
    (h : ∀ k, k + 1 < N → coeff (k + 1) (F * P) + coeff (k + 1) F * ((k : ℚ) + 1) = 0) :
    (X : ℚ⟦X⟧) ^ N ∣ F * P + X * derivative ℚ F := by
  rw [X_pow_dvd_iff]
  intro m hm
  cases m with
  | zero =>
    rw [LinearMap.map_add, coeff_zero_X_mul, add_zero, coeff_mul, Finset.Nat.antidiagonal_zero,
      Finset.sum_singleton, hP0 hm, mul_zero]
  | succ k =>
    rw [LinearMap.map_add, coeff_succ_X_mul, coeff_derivative]
    exact h k hm

theorem nextPowerSum_succ (esp ps : DVec) (k : ℕ) :
    nextPowerSum esp ps (k + 1) =
      -(∑ j ∈ Finset.range k, coeff (j + 1) (fE esp) * coeff (k - j) (toPS ps))
        - coeff (k + 1) (fE esp) * ((k : ℚ) + 1) := by
  unfold nextPowerSum
  rw [if_neg (by simp)]
  simp only [Nat.add_sub_cancel, Nat.add_sub_add_right]
  rw [list_range_sum, ← Finset.sum_neg_distrib]
  simp only [coeff_fE, coeff_toPS, altSign_eq_pow]
  rw [Nat.cast_succ, sub_eq_add_neg]
  congr 1
  · apply Finset.sum_congr rfl
    intro j _
    ring
  · ring

theorem PsInv.dvd {esp ps : DVec} (h : PsInv esp ps) (h0 : esp.getD 0 0 = 1) :
    (X : ℚ⟦X⟧) ^ ps.length ∣ fE esp * toPS ps + X * derivative ℚ (fE esp) := by
  have hp0 : 0 < ps.length → coeff 0 (toPS ps) = 0 := fun hpos => by
    rw [coeff_toPS, h 0 hpos]
    rfl
  refine dvd_newton_of_coeff hp0 fun k hk => ?_
  rw [coeff_succ_mul_split, hp0 (Nat.zero_lt_of_lt hk), coeff_toPS ps (k + 1), h _ hk, nextPowerSum_succ,
    coeff_zero_eq_constantCoeff_apply, constantCoeff_fE, h0]
  ring

theorem neg_one_pow_mul_of_le {j k : ℕ} (h : j ≤ k) :
    (-1 : ℚ) ^ (k + 1) * (-1) ^ j = -(-1) ^ (k - j) := by
  obtain ⟨m, rfl⟩ := Nat.exists_eq_add_of_le h
  rw [Nat.add_sub_cancel_left]
  have : (-1 : ℚ) ^ j * (-1) ^ j = 1 := by rw [← mul_pow]; simp
  rw [pow_succ, pow_add]
  linear_combination (-(-1 : ℚ) ^ m) * this

theorem nextEsp_succ (esp ps : DVec) (k : ℕ) (order : Int)
    (hord : ¬(0 ≤ order ∧ order < ((k + 1 : ℕ) : Int))) :
    (-1 : ℚ) ^ (k + 1) * nextEsp esp ps (k + 1) order * ((k : ℚ) + 1) =
      -(∑ j ∈ Finset.range (k + 1), coeff (j + 1) (toPS ps) * coeff (k - j) (fE esp)) := by
  unfold nextEsp
  rw [if_neg (by simp), if_neg hord]
  simp only [Nat.add_sub_add_right]
  have hk : (k : ℚ) + 1 ≠ 0 := Nat.cast_add_one_ne_zero k
  rw [list_range_sum, Nat.cast_succ, mul_assoc, div_mul_cancel₀ _ hk, Finset.mul_sum,
    ← Finset.sum_neg_distrib]
  apply Finset.sum_congr rfl
  intro j hj
  simp only [coeff_fE, coeff_toPS, altSign_eq_pow]
  linear_combination (ps.getD (j + 1) 0 * esp.getD (k - j) 0) *
    neg_one_pow_mul_of_le (Nat.le_of_lt_succ (Finset.mem_range.mp hj))

/-- `hord`: the truncation at `order` is not reached -/
theorem EspInv.dvd {ps esp : DVec} {order : Int} (h : EspInv ps esp order)
    (hord : order < 0 ∨ (esp.length : Int) ≤ order + 1) (h0 : ps.getD 0 0 = 0) :
    (X : ℚ⟦X⟧) ^ esp.length ∣ fE esp * toPS ps + X * derivative ℚ (fE esp) := by
  have hp0 : coeff 0 (toPS ps) = 0 := by rw [coeff_toPS, h0]
  refine dvd_newton_of_coeff (fun _ => hp0) fun k hk => ?_
  have hkk := nextEsp_succ esp ps k order (by omega)
  rw [← h (k + 1) hk, Finset.sum_range_succ, Nat.sub_self] at hkk
  rw [mul_comm (fE esp), coeff_succ_mul_split, hp0, coeff_fE esp (k + 1)]
  linear_combination hkk

theorem EspInv.head {ps esp : DVec} {order : Int} (h : EspInv ps esp order) (hpos : 0 < esp.length) :
    esp.getD 0 0 = 1 := by
  rw [h 0 hpos]
  rfl

theorem PsInv.head {esp ps : DVec} (h : PsInv esp ps) (hpos : 0 < ps.length) : ps.getD 0 0 = 0 := by
  rw [h 0 hpos]
  rfl

theorem PsInv.coeff_eq {esp ps : DVec} (h : PsInv esp ps) (h0 : esp.getD 0 0 = 1) {Q : ℚ⟦X⟧}
    (hQ : IsPS (fE esp) Q) {k : ℕ} (hk : k < ps.length) : ps.getD k 0 = coeff k Q := by
  have hF : constantCoeff (fE esp) ≠ 0 := by rw [constantCoeff_fE, h0]; exact one_ne_zero
  have := dvd_sub_iff_coeff.1 (IsPS.ps_unique hF (h.dvd h0) hQ) k hk
  rwa [coeff_toPS] at this

theorem EspInv.coeff_eq {ps esp : DVec} {order : Int} (h : EspInv ps esp order)
    (hord : order < 0 ∨ (esp.length : Int) ≤ order + 1) {G P : ℚ⟦X⟧}
    (hG : IsPS G P) (hG1 : constantCoeff G = 1)
    (hP : ∀ k, k < esp.length → ps.getD k 0 = coeff k P) {i : ℕ} (hi : i < esp.length) :
    (-1 : ℚ) ^ i * esp.getD i 0 = coeff i G := by
  have hF : constantCoeff (fE esp) = 1 := by
    rw [constantCoeff_fE, h.head (Nat.zero_lt_of_lt hi)]
  have h0 : ps.getD 0 0 = 0 := (hP 0 (Nat.zero_lt_of_lt hi)).trans (hG.coeff_zero (ne_zero_of_eq_one hG1))
  have hdvd : (X : ℚ⟦X⟧) ^ esp.length ∣ toPS ps - P :=
    dvd_sub_iff_coeff.2 fun m hm => (coeff_toPS ps m).trans (hP m hm)
  have := dvd_sub_iff_coeff.1 (IsPS.esp_unique hF hG1 (h.dvd hord h0) hG hdvd) i hi
  rwa [coeff_fE] at this

end Chem
