import ChemProofs.Lemmas.BrainCanon
import ChemProofs.Lemmas.BrainIso
/-
`populate` (BRAIN `populate_constants`) succeeds on a composition of `Dom` elements and every
element of the composition ends up with good constants (`GoodPP`), for the probabilities
(`Phi.elem`) and for the masses (`Phi.mass`) alike.  What `Phi.update` does to an entry is read
off the canonical form (Lemmas/BrainCanon.lean): `esp` is the `vietes` list padded with zeros, `ps`
the canonical power sums, which are Newton-consistent (`GoodPP.of_canon`).  The two vectors use this for a composition
with natural-number counts, as `GoodConsts` (`populate_toB_good`).
-/
namespace Chem

theorem getD_reverse_sub (p : List Rat) (i : Nat) (h : i < p.length) :
    p.reverse.getD (p.length - i - 1) 0 = p.getD i 0 := by
  rw [List.getD_eq_getElem?_getD, List.getD_eq_getElem?_getD, Nat.sub_right_comm,
    List.getElem?_reverse (Nat.sub_one_sub_lt h), Nat.sub_sub_self (Nat.le_sub_one_of_lt h)]

/-- `vietes` reads its argument from the back: on a reversed list, entry `i` is `± pᵢ / p₀` -/
theorem vietes_reverse (p : List Rat) (hp : p ≠ []) :
    ∃ esp, vietes p.reverse = .ok esp ∧ esp.length = p.length ∧
      ∀ i, esp.getD i 0 = altSign i * p.getD i 0 / p.getD 0 0 := by
  obtain ⟨a, t, rfl⟩ := List.exists_cons_of_ne_nil hp
  refine ⟨_, by rw [vietes, List.getLast?_reverse]; rfl,
    by rw [List.length_map, List.length_range, List.length_reverse], fun i => ?_⟩
  rw [List.getD_eq_getElem?_getD, List.getElem?_map, List.length_reverse]
  by_cases h : i < (a :: t).length
  · rw [List.getElem?_range h, Option.map_some, Option.getD_some, getD_reverse_sub _ _ h]
    rfl
  · rw [List.getElem?_eq_none (by rw [List.length_range]; exact Nat.not_lt.mp h), Option.map_none, Option.getD_none,
      List.getD_eq_getElem?_getD, List.getElem?_eq_none (Nat.not_lt.mp h), Option.getD_none, mul_zero, zero_div]

def Phi.part (phi : Phi) : Bool → PolyParams
  | false => phi.elem
  | true => phi.mass

/-- `pp` holds the BRAIN constants of the coefficient list `p` up to `order`: `esp` is the
    normalised sign-alternated `p` (possibly zero-padded), `ps` a Newton-consistent power-sum
    prefix of length ≥ order + 1 -/
structure GoodPP (p : List Rat) (order : Nat) (pp : PolyParams) : Prop where
  esp : ∀ i, pp.esp.getD i 0 = altSign i * p.getD i 0 / p.getD 0 0
  inv : PsInv pp.esp pp.ps
  len : order + 1 ≤ pp.ps.length

theorem GoodPP.mono {p : List Rat} {o o' : Nat} {pp : PolyParams} (h : GoodPP p o pp)
    (ho : o' ≤ o) : GoodPP p o' pp :=
  ⟨h.esp, h.inv, (Nat.succ_le_succ ho).trans h.len⟩

theorem goodPhi_iff {e : Elem} {one : Rat} {order : Nat} {phi : Phi} :
    GoodPhi e one order phi ↔ GoodPP (Spec.elemPoly e one false) order phi.elem :=
  ⟨fun h => ⟨h.esp, h.inv, h.len⟩, fun h => ⟨h.esp, h.inv, h.len⟩⟩

theorem GoodPP.of_canon {p : List Rat} {p0 pp : PolyParams} {order : Nat}
    (h0 : ∀ i, p0.esp.getD i 0 = altSign i * p.getD i 0 / p.getD 0 0) (hc : PolyCanon p0 pp)
    (hlen : order + 1 ≤ pp.esp.length) : GoodPP p order pp := by
  obtain ⟨m, hm⟩ := hc.1
  have hesp : ∀ i, p0.esp.getD i 0 = pp.esp.getD i 0 := fun i => by
    rw [hm, getD_append_replicate_zero]
  refine ⟨fun i => (hesp i).symm.trans (h0 i), PsInv_congr_esp hesp ?_, by rwa [hc.ps_length]⟩
  rw [hc.2]
  exact psN_inv p0.esp _

theorem PolyParams.fromElement_of_dom {e : Elem} (hdom : Dom e) (wm : Bool) (one : Rat) :
    ∃ pp, PolyParams.fromElement e wm one = .ok pp ∧ pp.esp.length = e.isos.length ∧
      ∀ i, pp.esp.getD i 0 =
        altSign i * (Spec.elemPoly e one wm).getD i 0 / (Spec.elemPoly e one wm).getD 0 0 := by
  obtain ⟨esp, hv, hl, hg⟩ := vietes_reverse _ (elemPoly_ne_nil e one wm)
  refine ⟨⟨esp, psN esp esp.length⟩, ?_, hl.trans (elemPoly_length_of_dom hdom one wm), hg⟩
  rw [PolyParams.fromElement, isotopicCoefficients_of_dom hdom, Res.ok_bind, hv, Res.ok_bind,
    newton_init]

theorem Phi.fromElement_of_dom {e : Elem} (hdom : Dom e) (one : Rat) :
    ∃ phi, Phi.fromElement e one = .ok phi ∧ CanonExt phi phi ∧
      phi.order = (e.isos.length : Int) - 1 ∧ phi.elem.esp.length = e.isos.length ∧
      ∀ wm i, (phi.part wm).esp.getD i 0 =
        altSign i * (Spec.elemPoly e one wm).getD i 0 / (Spec.elemPoly e one wm).getD 0 0 := by
  obtain ⟨pe, hpe, hel, heg⟩ := PolyParams.fromElement_of_dom hdom false one
  obtain ⟨pm, hpm, -, hmg⟩ := PolyParams.fromElement_of_dom hdom true one
  have hphi : Phi.fromElement e one = .ok ⟨e.maxShift, e.sym, pe, pm⟩ := by
    rw [Phi.fromElement, hpe, Res.ok_bind, hpm, Res.ok_bind]
  refine ⟨_, hphi, fromElement_shape hphi, hdom.maxShift, hel, fun wm => ?_⟩
  cases wm
  · exact heg
  · exact hmg

theorem CanonExt.part {φ0 φ : Phi} (h : CanonExt φ0 φ) (wm : Bool) :
    PolyCanon (φ0.part wm) (φ.part wm) ∧ (φ.part wm).esp.length = φ.elem.esp.length := by
  cases wm
  · exact ⟨h.1, rfl⟩
  · exact ⟨h.2.1, h.2.2⟩

theorem Phi.update_good {p : List Rat} {phi : Phi} {wm : Bool} (order : Nat)
    (hext : CanonExt phi phi) (ho : phi.order = (phi.elem.esp.length : Int) - 1)
    (h0 : ∀ i, (phi.part wm).esp.getD i 0 = altSign i * p.getD i 0 / p.getD 0 0) :
    GoodPP p (order + 1) ((phi.update order).part wm) := by
  by_cases hlt : (order : Int) < phi.order
  · rw [update_of_lt hlt]
    obtain ⟨hc, hl⟩ := hext.part wm
    exact GoodPP.of_canon h0 hc (by rw [hl]; omega)
  · obtain ⟨hext', hl', -⟩ := hext.update hlt
    obtain ⟨hc, hl⟩ := hext'.part wm
    exact GoodPP.of_canon h0 hc (by rw [hl]; omega)

theorem IsoConstants.get_mem {cs : IsoConstants} {s : Sym} {phi : Phi}
    (h : cs.get s = some phi) : (s, phi) ∈ cs.consts := by
  unfold IsoConstants.get at h
  cases hf : cs.consts.find? (fun x => x.1 == s) with
  | none =>
    rw [hf] at h
    cases h
  | some x =>
    rw [hf, Option.map_some, Option.some.injEq] at h
    obtain ⟨hm, hs⟩ := find?_key_some hf
    rw [← hs, ← h]
    exact hm

theorem IsoConstants.get_update (cs : IsoConstants) (s : Sym) :
    cs.update.get s = (cs.get s).map (·.update cs.order) := by
  unfold IsoConstants.get IsoConstants.update
  simp only [List.find?_map, Option.map_map]
  rfl

theorem IsoConstants.add_ok (cs : IsoConstants) (e : Elem) (one : Rat)
    (hfe : ∃ phi, Phi.fromElement e one = .ok phi) :
    ∃ cs', cs.add e one = .ok cs' ∧
      (∀ s, (cs.get s).isSome → (cs'.get s).isSome) ∧ (cs'.get e.sym).isSome := by
  cases hf : cs.consts.find? (fun y => y.1 == e.sym) with
  | some q =>
    refine ⟨cs, add_of_find_some hf, fun _ h => h, ?_⟩
    rw [IsoConstants.get, hf]
    rfl
  | none =>
    obtain ⟨phi, hphi⟩ := hfe
    refine ⟨{ cs with consts := cs.consts ++ [(e.sym, phi)] },
      by rw [add_of_find_none hf, hphi, Res.ok_bind], ?_, ?_⟩
    · intro s hs
      unfold IsoConstants.get at hs ⊢
      simp only [List.find?_append]
      cases hf' : cs.consts.find? (fun x => x.1 == s) with
      | none =>
        rw [hf'] at hs
        cases hs
      | some y => rfl
    · rw [IsoConstants.get, List.find?_append, hf, List.find?_cons, beq_self_eq_true]
      rfl

theorem populate_fold (K : BrainConsts) :
    ∀ (l : List (Elem × Int)), (∀ x ∈ l, ∃ phi, Phi.fromElement x.1 K.one = .ok phi) → ∀ cs,
      ∃ cs', l.foldl (populateStep K) (Res.ok cs) = .ok cs' ∧
        (∀ s, (cs.get s).isSome → (cs'.get s).isSome) ∧ ∀ x ∈ l, (cs'.get x.1.sym).isSome := by
  intro l
  induction l with
  | nil =>
    intro _ cs
    exact ⟨cs, rfl, fun _ h => h, fun x hx => absurd hx (by simp)⟩
  | cons a t ih =>
    intro hl cs
    obtain ⟨cs1, h1, hmono1, hget1⟩ := IsoConstants.add_ok cs a.1 K.one (hl a List.mem_cons_self)
    obtain ⟨cs2, h2, hmono2, hget2⟩ := ih (fun x hx => hl x (List.mem_cons_of_mem _ hx)) cs1
    refine ⟨cs2, ?_, fun s h => hmono2 s (hmono1 s h), ?_⟩
    · rw [List.foldl_cons, populateStep, Res.ok_bind, h1]
      exact h2
    · intro x hx
      rcases List.mem_cons.mp hx with rfl | hx
      · exact hmono2 _ hget1
      · exact hget2 x hx

theorem populate_goodPP (K : BrainConsts) (c : BComp) (order : Nat)
    (hdom : ∀ x ∈ c, Dom x.1)
    (hsym : ∀ x ∈ c, ∀ y ∈ c, x.1.sym = y.1.sym → x.1 = y.1) :
    ∃ consts, populate K c order = .ok consts ∧
      ∀ x ∈ c, ∃ phi, consts.get x.1.sym = some phi ∧
        ∀ wm, GoodPP (Spec.elemPoly x.1 K.one wm) (order + 1) (phi.part wm) := by
  obtain ⟨cs, hfold, -, hget⟩ := populate_fold K c (fun x hx =>
    (Phi.fromElement_of_dom (hdom x hx) K.one).imp fun _ h => h.1) ⟨[], order⟩
  obtain ⟨hord, hsrc⟩ := populate_fromComp hfold
  refine ⟨cs.update, ?_, ?_⟩
  · show (c.foldl (populateStep K) (Res.ok ⟨[], order⟩)).bind _ = _
    rw [hfold]
    rfl
  · intro x hx
    obtain ⟨phi, hg⟩ := Option.isSome_iff_exists.mp (hget x hx)
    refine ⟨phi.update cs.order, by rw [IsoConstants.get_update, hg, Option.map_some], fun wm => ?_⟩
    obtain ⟨y, hy, hys, hyphi⟩ := hsrc _ (IsoConstants.get_mem hg)
    rw [hsym y hy x hx hys] at hyphi
    obtain ⟨phi', hphi', hext, ho, hel, hesp⟩ := Phi.fromElement_of_dom (hdom x hx) K.one
    rw [hphi'] at hyphi
    injection hyphi with hyphi
    dsimp only at hyphi
    rw [hord, ← hyphi]
    exact Phi.update_good order hext (by rw [hel]; exact ho) (hesp wm)

theorem populate_good (K : BrainConsts) (c : BComp) (order : Int) (horder : 0 ≤ order)
    (hdom : ∀ x ∈ c, Dom x.1)
    (hsym : ∀ x ∈ c, ∀ y ∈ c, x.1.sym = y.1.sym → x.1 = y.1)
    (hiso : ∀ x ∈ c, ∀ wm, isotopicCoefficients x.1 wm K.one = .ok (Spec.elemPoly x.1 K.one wm).reverse)
    (hlen : ∀ x ∈ c, ∀ wm, (Spec.elemPoly x.1 K.one wm).length = x.1.isos.length) :
    ∃ consts, populate K c order = .ok consts ∧
      ∀ x ∈ c, ∃ phi, consts.get x.1.sym = some phi ∧ GoodPhi x.1 K.one (order.toNat + 1) phi := by
  obtain ⟨n, rfl⟩ := Int.eq_ofNat_of_zero_le horder
  obtain ⟨consts, hpop, hgood⟩ := populate_goodPP K c n hdom hsym
  refine ⟨consts, hpop, fun x hx => ?_⟩
  obtain ⟨phi, hget, hg⟩ := hgood x hx
  exact ⟨phi, hget, goodPhi_iff.mpr (hg false)⟩

/-- what `populate` establishes (`populate_toB_good`), and all that the two vectors need of the constants -/
def GoodConsts (consts : IsoConstants) (c : List (Elem × Nat)) (one : Rat) (order : Nat) : Prop :=
  ∀ x ∈ c, ∃ phi, consts.get x.1.sym = some phi ∧
    ∀ wm, GoodPP (Spec.elemPoly x.1 one wm) order (phi.part wm)

theorem sym_inj_of_nodup {c : List (Elem × Nat)} (h : (c.map fun x => x.1.sym).Nodup) :
    ∀ x ∈ c, ∀ y ∈ c, x.1.sym = y.1.sym → x.1 = y.1 :=
  fun _ hx _ hy hs => congrArg Prod.fst (List.inj_on_of_nodup_map h hx hy hs)

theorem populate_toB_good (K : BrainConsts) (c : List (Elem × Nat)) (order : Nat)
    (hdom : ∀ x ∈ c, Dom x.1) (hsym : ∀ x ∈ c, ∀ y ∈ c, x.1.sym = y.1.sym → x.1 = y.1) :
    ∃ consts, populate K (toB c) (order : Int) = .ok consts ∧ GoodConsts consts c K.one order := by
  obtain ⟨consts, hpop, hgood⟩ := populate_goodPP K (toB c) order
    (by
      intro x hx
      obtain ⟨y, hy, rfl⟩ := mem_toB hx
      exact hdom y hy)
    (by
      intro x hx x' hx' h
      obtain ⟨y, hy, rfl⟩ := mem_toB hx
      obtain ⟨y', hy', rfl⟩ := mem_toB hx'
      exact hsym y hy y' hy' h)
  refine ⟨consts, hpop, fun x hx => ?_⟩
  obtain ⟨phi, hget, hg⟩ := hgood (x.1, (x.2 : Int)) (List.mem_map.mpr ⟨x, hx, rfl⟩)
  exact ⟨phi, hget, fun wm => (hg wm).mono (Nat.le_succ _)⟩

end Chem
