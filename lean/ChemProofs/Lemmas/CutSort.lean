import ChemProofs.Lemmas.Peaks
import ChemProofs.Lemmas.Sort
import ChemProofs.Model.Brain
/-
The last two steps of the coarse generator, `cutLoop` and `sortByMz`, on a list of peaks that is the image
`l.map f` of some other list (variant indices, isotopes, the same peaks at another charge): the cut looks at
intensities only and the sort at m/z only, so both can be computed on `l`.  `cutLoopBy` is the cut loop on the
source list; what is proved about it holds for `cutLoop` itself at `f = id`.  With it the facts about the
two model functions on their own: `sortByMz` is a stable sort, `cutLoop` keeps a sublist that is described
exactly by `cutLoop_leading`.  `sortByMz_cutLoop_spec` says what the two steps together do to an image list; on a list
that is already sorted the second step does nothing (`sortByMz_cutLoop_of_sorted`).
-/
namespace Chem

abbrev mzLt (a b : Peak) : Bool := decide (a.mz < b.mz)

theorem mzLt_strictWeak : StrictWeak mzLt where
  asymm h := by
    simp only [mzLt, decide_eq_true_eq, decide_eq_false_iff_not] at h ⊢
    exact Rat.not_lt.2 (Rat.le_of_lt h)
  ntrans h1 h2 := by
    simp only [mzLt, decide_eq_false_iff_not, Rat.not_lt] at h1 h2 ⊢
    exact Rat.le_trans h1 h2

theorem sortedBy_mzLt {l : List Peak} : SortedBy mzLt l ↔ l.Pairwise (fun a b => a.mz ≤ b.mz) := by
  simp only [SortedBy, mzLt, decide_eq_false_iff_not, Rat.not_lt]

theorem insertByMz_eq (x : Peak) (l : List Peak) : insertByMz x l = insertSorted mzLt x l := by
  induction l with
  | nil => rfl
  | cons y ys ih => simp only [insertByMz, insertSorted, ih, mzLt, decide_eq_true_eq]

theorem sortByMz_eq (l : List Peak) : sortByMz l = stableSort mzLt l := by
  unfold sortByMz stableSort
  congr
  funext acc x
  exact insertByMz_eq x acc

theorem sortByMz_perm (l : List Peak) : (sortByMz l).Perm l :=
  sortByMz_eq l ▸ stableSort_perm mzLt l

theorem sortByMz_sorted (l : List Peak) : (sortByMz l).Pairwise (fun a b => a.mz ≤ b.mz) :=
  sortedBy_mzLt.1 (sortByMz_eq l ▸ stableSort_sorted mzLt_strictWeak l)

theorem sortByMz_length (l : List Peak) : (sortByMz l).length = l.length := (sortByMz_perm l).length_eq

theorem sortByMz_mem (l : List Peak) (p : Peak) : p ∈ sortByMz l ↔ p ∈ l := (sortByMz_perm l).mem_iff

theorem sortByMz_ne_nil (l : List Peak) (h : l ≠ []) : sortByMz l ≠ [] := fun e =>
  h (List.Perm.eq_nil (e ▸ (sortByMz_perm l).symm))

/-- the sort is the identity on an input that is already (weakly) increasing in m/z -/
theorem sortByMz_id_of_sorted (l : List Peak) (h : l.Pairwise (fun a b => a.mz ≤ b.mz)) : sortByMz l = l :=
  sortByMz_eq l ▸ stableSort_id (sortedBy_mzLt.2 h)

/-- … in particular on a strictly increasing one -/
theorem sortByMz_id (l : List Peak) (h : l.Pairwise (fun a b => a.mz < b.mz)) : sortByMz l = l :=
  sortByMz_id_of_sorted l (h.imp (fun hab => le_of_lt hab))

theorem sortByMz_total (l : List Peak) : total (sortByMz l) = total l :=
  ((sortByMz_perm l).map _).sum_eq

/-- the cut loop transported to an index list (`cutLoop` only looks at the peaks `f a`) -/
def cutLoopBy {α} (cut : Rat) (f : α → Peak) : List α → Bool → List α
  | [], _ => []
  | a :: rest, hasReal =>
    if (f a).int < cut then
      (if hasReal then cutLoopBy cut f rest hasReal else a :: cutLoopBy cut f rest hasReal)
    else a :: cutLoopBy cut f rest true

theorem cutLoop_mapBy {α} (cut : Rat) (f g : α → Peak) (hfg : ∀ a, (g a).int = (f a).int) (l : List α)
    (b : Bool) : cutLoop cut (l.map g) b = (cutLoopBy cut f l b).map g := by
  induction l generalizing b with
  | nil => rfl
  | cons a rest ih =>
    -- both sides branch on the same two tests: `List.map g` goes through the two `if`s of the right side
    rw [List.map_cons, cutLoop, cutLoopBy, hfg, ih, ih, apply_ite (List.map g), apply_ite (List.map g),
      List.map_cons, List.map_cons]

theorem cutLoopBy_id (cut : Rat) (l : List Peak) (b : Bool) : cutLoopBy cut id l b = cutLoop cut l b := by
  have := cutLoop_mapBy cut id id (fun _ => rfl) l b
  rwa [List.map_id, List.map_id, eq_comm] at this

theorem cutLoopBy_sublist {α} (cut : Rat) (f : α → Peak) (l : List α) (b : Bool) :
    (cutLoopBy cut f l b).Sublist l := by
  -- case1 nil | case2 below the cut after a real peak: dropped | case3 below the cut, no real peak yet: kept | case4 at least the cut: kept
  fun_induction cutLoopBy cut f l b with
  | case1 => exact .refl _
  | case2 _ _ _ ih => exact ih.cons _
  | case3 _ _ _ _ _ ih | case4 _ _ _ _ ih => exact ih.cons_cons _

theorem cutLoopBy_keeps {α} (cut : Rat) (f : α → Peak) (l : List α) (b : Bool) (a : α) (ha : a ∈ l)
    (hc : cut ≤ (f a).int) : a ∈ cutLoopBy cut f l b := by
  fun_induction cutLoopBy cut f l b with
  | case1 => exact ha
  | case2 q rest hlt ih =>
    exact ih ((List.mem_cons.1 ha).resolve_left fun e => absurd (e ▸ hlt) (not_lt.2 hc))
  | case3 q rest b _ _ ih | case4 q rest b _ ih =>
    exact List.mem_cons.2 ((List.mem_cons.1 ha).imp_right ih)

theorem cutLoopBy_head {α} (cut : Rat) (f : α → Peak) (a : α) (rest : List α) :
    ∃ t, cutLoopBy cut f (a :: rest) false = a :: t := by
  rw [cutLoopBy]
  by_cases h : (f a).int < cut
  · rw [if_pos h]
    exact ⟨_, rfl⟩
  · rw [if_neg h]
    exact ⟨_, rfl⟩

theorem cutLoop_eq_self (cut : Rat) (l : List Peak) (b : Bool) (h : ∀ p ∈ l, cut ≤ p.int) :
    cutLoop cut l b = l := by
  induction l generalizing b with
  | nil => rfl
  | cons p rest ih =>
    rw [cutLoop, if_neg (not_lt.2 (h p List.mem_cons_self)), ih _ fun q hq => h q (List.mem_cons_of_mem _ hq)]

theorem cutLoop_sublist (cut : Rat) (l : List Peak) (b : Bool) : (cutLoop cut l b).Sublist l :=
  cutLoopBy_id cut l b ▸ cutLoopBy_sublist cut id l b

theorem cutLoop_keeps (cut : Rat) (l : List Peak) (b : Bool) (p : Peak) (hp : p ∈ l) (hc : cut ≤ p.int) :
    p ∈ cutLoop cut l b :=
  cutLoopBy_id cut l b ▸ cutLoopBy_keeps cut id l b p hp hc

/-- once a real peak has been seen the loop is the plain filter `cut ≤ int` -/
theorem cutLoop_true (cut : Rat) (l : List Peak) :
    cutLoop cut l true = l.filter (fun p => decide (cut ≤ p.int)) := by
  induction l with
  | nil => rfl
  | cons p rest ih =>
    rw [cutLoop, List.filter_cons, ih]
    by_cases h : p.int < cut
    · rw [if_pos h, if_neg (mt of_decide_eq_true (not_le.2 h))]
      rfl
    · rw [if_neg h, if_pos (decide_eq_true (not_lt.1 h))]

/-- from `hasReal = false`: all peaks up to (not including) the first one with `cut ≤ int` are kept,
    then exactly the later ones with `cut ≤ int` -/
theorem cutLoop_leading (cut : Rat) (l : List Peak) :
    cutLoop cut l false =
      l.takeWhile (fun p => decide (p.int < cut)) ++
        (l.dropWhile (fun p => decide (p.int < cut))).filter (fun p => decide (cut ≤ p.int)) := by
  induction l with
  | nil => rfl
  | cons p rest ih =>
    by_cases h : p.int < cut
    · simp [cutLoop, h, ih]
    · have h' : cut ≤ p.int := not_lt.1 h
      simp [cutLoop, h, h', cutLoop_true]

theorem cutLoop_head (cut : Rat) (p : Peak) (rest : List Peak) :
    ∃ t, cutLoop cut (p :: rest) false = p :: t :=
  cutLoopBy_id cut (p :: rest) false ▸ cutLoopBy_head cut id p rest

theorem cutLoop_nonempty (cut : Rat) (l : List Peak) (b : Bool) (hl : l ≠ [])
    (h : (∃ p ∈ l, cut ≤ p.int) ∨ b = false) : cutLoop cut l b ≠ [] := by
  rcases h with ⟨p, hp, hc⟩ | rfl
  · exact List.ne_nil_of_mem (cutLoop_keeps cut l b p hp hc)
  · cases l with
    | nil => exact absurd rfl hl
    | cons p rest =>
      obtain ⟨t, ht⟩ := cutLoop_head cut p rest
      rw [ht]
      exact List.cons_ne_nil _ _

/-- what the loop omits, from `hasReal = false`: the sub-`cut` peaks after the first real one -/
theorem cutLoop_total (cut : Rat) (l : List Peak) :
    total (cutLoop cut l false) =
      total l - total ((l.dropWhile (fun p => decide (p.int < cut))).filter (fun p => decide (p.int < cut))) := by
  have hl : total l = total (l.takeWhile (fun p => decide (p.int < cut))) +
      total (l.dropWhile (fun p => decide (p.int < cut))) := by
    rw [← total_append, List.takeWhile_append_dropWhile]
  have hd := total_filter_split (l.dropWhile (fun p => decide (p.int < cut))) (fun p => decide (cut ≤ p.int))
  have hneg : (fun q : Peak => !decide (cut ≤ q.int)) = fun p => decide (p.int < cut) := by
    funext q
    simp only [← decide_not, not_le]
  rw [hneg] at hd
  rw [cutLoop_leading, total_append, hl, ← hd, add_sub_assoc, add_sub_cancel_right]

theorem sortByMz_cutLoop_map {α : Type} (cut : Rat) (f : α → Peak) (l : List α) :
    sortByMz (cutLoop cut (l.map f) false) =
      (stableSort (fun a b => mzLt (f a) (f b)) (cutLoopBy cut f l false)).map f := by
  rw [cutLoop_mapBy cut f f (fun _ => rfl), sortByMz_eq, stableSort_map]

/-- `js.Subperm l`: up to order a sublist, so `js ⊆ l`, no longer than `l`, duplicate-free when `l` is.  At `f = id`
    this describes the output on the raw list itself. -/
theorem sortByMz_cutLoop_spec {α : Type} (cut : Rat) (f : α → Peak) (l : List α) :
    ∃ js : List α, js.Subperm l ∧ (∀ a, l.head? = some a → a ∈ js) ∧ (∀ a ∈ l, cut ≤ (f a).int → a ∈ js) ∧
      sortByMz (cutLoop cut (l.map f) false) = js.map f ∧ (js.map f).Pairwise (fun a b => a.mz ≤ b.mz) := by
  have hp := stableSort_perm (fun a b => mzLt (f a) (f b)) (cutLoopBy cut f l false)
  have he := sortByMz_cutLoop_map cut f l
  refine ⟨_, ⟨_, hp.symm, cutLoopBy_sublist cut f l false⟩, fun a ha => hp.symm.subset ?_,
    fun a ha hc => hp.symm.subset (cutLoopBy_keeps cut f l false a ha hc), he, he ▸ sortByMz_sorted _⟩
  cases l with
  | nil => cases ha
  | cons b rest =>
    obtain ⟨t, ht⟩ := cutLoopBy_head cut f b rest
    rw [ht, Option.some.inj ha]
    exact List.mem_cons_self

theorem sortByMz_cutLoop_of_sorted (cut : Rat) {raw : List Peak} (b : Bool)
    (h : raw.Pairwise (fun a b => a.mz ≤ b.mz)) : sortByMz (cutLoop cut raw b) = cutLoop cut raw b :=
  sortByMz_id_of_sorted _ (h.sublist (cutLoop_sublist cut raw b))

end Chem
