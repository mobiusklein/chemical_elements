import ChemProofs.Lemmas.Peaks
/-
C13 — truncation, filtering, scaling and shifting do exactly what they say (exact arithmetic).
-/
namespace Chem
open Pattern

/-- `scale_by` multiplies every intensity by the factor and nothing else -/
theorem scaleBy_spec (p : Pattern) (f : Rat) :
    (p.scaleBy f).peaks = p.peaks.map (fun q => ⟨q.mz, q.int * f⟩) ∧ (p.scaleBy f).origin = p.origin := ⟨rfl, rfl⟩

/-- `shift` / `clone_shifted` add the offset to every m/z and to the origin, leave intensities alone -/
theorem shift_spec (p : Pattern) (o : Rat) :
    (p.shift o).peaks = p.peaks.map (fun q => ⟨q.mz + o, q.int⟩) ∧ (p.shift o).origin = p.origin + o ∧
    p.cloneShifted o = p.shift o := ⟨rfl, rfl, rfl⟩

theorem normalize_sum (p q : Pattern) (hne : p.peaks ≠ []) (ht : total p.peaks ≠ 0) (h : p.normalize = some q) :
    total q.peaks = 1 := by
  obtain rfl := Option.some.inj ((normalize_some p ht).symm.trans h)
  exact (total_scale p.peaks _).trans (mul_one_div_cancel ht)

theorem normalize_shape (p q : Pattern) (hne : p.peaks ≠ []) (ht : total p.peaks ≠ 0) (h : p.normalize = some q) :
    q.peaks.map (·.mz) = p.peaks.map (·.mz) ∧ q.origin = p.origin ∧ q.peaks.length = p.peaks.length ∧
    q.peaks.map (·.int) = p.peaks.map (fun x => x.int * (1 / total p.peaks)) := by
  obtain rfl := Option.some.inj ((normalize_some p ht).symm.trans h)
  exact ⟨List.map_map, rfl, List.length_map _, List.map_map⟩

theorem normalize_ratio (p q : Pattern) (hne : p.peaks ≠ []) (ht : total p.peaks ≠ 0) (h : p.normalize = some q)
    (i j : Nat) (a b a' b' : Peak) (ha : p.peaks[i]? = some a) (hb : p.peaks[j]? = some b)
    (ha' : q.peaks[i]? = some a') (hb' : q.peaks[j]? = some b') :
    a'.int * b.int = b'.int * a.int := by
  obtain rfl := Option.some.inj ((normalize_some p ht).symm.trans h)
  simp only [Pattern.scaleBy, List.getElem?_map, ha, hb, Option.map_some, Option.some.injEq] at ha' hb'
  subst ha' hb'
  simp only
  ring

/-- **`truncate_after(t)` keeps the shortest (non-empty) prefix whose cumulative intensity reaches
    `t` — all peaks if `t` is never reached — and renormalises it** -/
theorem truncate_eq_spec (p : Pattern) (t : Rat) : p.truncateAfter t = Spec.truncateAfter p t := by
  unfold Pattern.truncateAfter Spec.truncateAfter
  simp only [(stopLoop_prefix t p.peaks).1]

/-- **`ignore_below(t)` keeps, in order, exactly the peaks with intensity at least `t`, renormalised**
    (`rfl`: the model's definition and the specification are the same text) -/
theorem ignore_eq_spec (p : Pattern) (t : Rat) : p.ignoreBelow t = Spec.ignoreBelow p t := rfl

theorem truncate_sum (p q : Pattern) (t : Rat) (hne : p.peaks ≠ []) (hpos : ∀ x ∈ p.peaks, 0 < x.int)
    (h : p.truncateAfter t = some q) : total q.peaks = 1 := by
  rw [truncate_eq_spec] at h
  have hne' := prefixReaching_ne_nil t hne
  exact normalize_sum { p with peaks := Spec.prefixReaching t p.peaks } q hne'
    (total_pos hne' fun x hx => hpos x (prefixReaching_subset t _ x hx)).ne' h

theorem ignore_sum (p q : Pattern) (t : Rat) (hpos : ∀ x ∈ p.peaks, 0 < x.int)
    (hsome : (p.peaks.filter (fun x => t ≤ x.int)) ≠ []) (h : p.ignoreBelow t = some q) : total q.peaks = 1 := by
  unfold Pattern.ignoreBelow at h
  exact normalize_sum ⟨p.peaks.filter (fun x => t ≤ x.int), p.origin⟩ q hsome
    (total_pos hsome (fun x hx => hpos x (List.mem_of_mem_filter hx))).ne' h

/-- non-vacuity, and the witness of the repaired defect D18 (threshold never reached) -/
def demo : Pattern := ⟨[⟨100, 1/2⟩, ⟨101, 1/4⟩, ⟨102, 1/8⟩, ⟨103, 1/16⟩], 100⟩
example : (demo.truncateAfter (7/10)).map (·.peaks.length) = some 2 := by decide +kernel
example : (demo.truncateAfter 1).map (·.peaks.length) = some 4 := by decide +kernel
example : (demo.ignoreBelow (1/8)).map (·.peaks.map (·.int)) = some [4/7, 2/7, 1/7] := by decide +kernel

end Chem
