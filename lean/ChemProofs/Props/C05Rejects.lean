import ChemProofs.Props.C05
import ChemProofs.Props.C05Sound
import ChemProofs.Lemmas.Table
/-
C05 — named consequences of `parse_no_panic` + `parse_sound`: the kinds of malformed text the property
lists are rejected with an error value, because every rendering of a well-formed tree has a property they lack
(`RenderClosed`, `err_of_not_closed`); the empty text and a wrong first character (`reject_empty`, `reject_bad_start`)
are rejected by the parser's first step.
-/
namespace Chem
open Spec

/-- characters that can occur in the text of a well-formed formula over `T` -/
def formulaChar (T : Table) (c : Nat) : Bool :=
  isAsciiDigit c || c == 91 || c == 93 || c == 40 || c == 41 || T.any (fun e => e.tkey.contains c)

/-- parenthesis balance: never negative, zero at the end -/
def balancedFrom : Nat → List Nat → Bool
  | d, [] => d == 0
  | d, c :: rest =>
    if c == 40 then balancedFrom (d + 1) rest
    else if c == 41 then (match d with | 0 => false | d' + 1 => balancedFrom d' rest)
    else balancedFrom d rest

def balanced (s : List Nat) : Bool := balancedFrom 0 s

/-- no table key contains a parenthesis (true of the compiled table; see `Inst/C05.lean`) -/
def noParenKeys (T : Table) : Bool := T.all (fun e => !e.tkey.contains 40 && !e.tkey.contains 41)

theorem wf_elem_inv {T : Table} {sym : Sym} {iso cnt : Option (List Nat)}
    (h : (RTerm.elem sym iso cnt).wf T = true) :
    ∃ e, T.find? sym = some e ∧ upperHead sym = true ∧ isoOKr e iso = true ∧ cntOK cnt = true := by
  rw [RTerm.wf] at h
  cases hf : T.find? sym with
  | none => simp [hf] at h
  | some e =>
    simp only [hf, Bool.and_eq_true] at h
    exact ⟨e, rfl, h.1.1, h.1.2, h.2⟩

theorem wf_group_inv {T : Table} {body : RTerms} {cnt : Option (List Nat)}
    (h : (RTerm.group body cnt).wf T = true) :
    body.nonEmpty = true ∧ body.wf T = true ∧ cntOK cnt = true := by
  simp only [RTerm.wf, Bool.and_eq_true] at h
  exact ⟨h.1.1, h.1.2, h.2⟩

theorem wf_cons_inv {T : Table} {t : RTerm} {ts : RTerms} (h : (RTerms.cons t ts).wf T = true) :
    t.wf T = true ∧ ts.wf T = true := by
  rw [RTerms.wf] at h
  simpa using h

theorem cnt_chars {cnt : Option (List Nat)} (h : cntOK cnt = true) :
    ∀ c ∈ rOpt cnt, isAsciiDigit c = true := by
  cases cnt with
  | none => simp [rOpt]
  | some ds =>
    simp only [cntOK, Bool.and_eq_true, List.all_eq_true] at h
    exact h.1.2

theorem iso_chars {e : Elem} {iso : Option (List Nat)} (h : isoOKr e iso = true) :
    ∀ c ∈ rIso iso, isAsciiDigit c = true ∨ c = 91 ∨ c = 93 := by
  cases iso with
  | none => simp [rIso]
  | some ds =>
    intro c hc
    simp [rIso] at hc
    rcases hc with hc | hc | hc
    · exact Or.inr (Or.inl hc)
    · simp only [isoOKr, Bool.or_eq_true, Bool.and_eq_true, List.isEmpty_iff, List.all_eq_true] at h
      rcases h with rfl | h
      · cases hc
      · exact Or.inl (h.1 c hc)
    · exact Or.inr (Or.inr hc)

def plainChar (T : Table) (c : Nat) : Prop :=
  isAsciiDigit c = true ∨ c = 91 ∨ c = 93 ∨ ∃ e ∈ T, c ∈ e.tkey

theorem elem_chars {T : Table} {sym : Sym} {iso cnt : Option (List Nat)}
    (h : (RTerm.elem sym iso cnt).wf T = true) :
    ∀ c ∈ sym ++ rIso iso ++ rOpt cnt, plainChar T c := by
  obtain ⟨e, hf, _, hi, hcn⟩ := wf_elem_inv h
  obtain ⟨hk, hm⟩ := Table.find?_tkey _ _ _ hf
  intro c hc
  simp only [List.mem_append] at hc
  rcases hc with (hc | hc) | hc
  · exact Or.inr (Or.inr (Or.inr ⟨e, hm, hk ▸ hc⟩))
  · rcases iso_chars hi c hc with h | h | h
    · exact Or.inl h
    · exact Or.inr (Or.inl h)
    · exact Or.inr (Or.inr (Or.inl h))
  · exact Or.inl (cnt_chars hcn c hc)

theorem plainChar_formulaChar {T : Table} {c : Nat} (h : plainChar T c) : formulaChar T c = true := by
  unfold formulaChar
  rcases h with h | rfl | rfl | ⟨e, he, hc⟩
  · rw [h]
    rfl
  · rfl
  · rfl
  · have : T.any (fun e => e.tkey.contains c) = true :=
      List.any_eq_true.mpr ⟨e, he, by simpa using hc⟩
    simp only [this, Bool.or_true]

theorem plainChar_noParen {T : Table} (hT : noParenKeys T = true) {c : Nat} (h : plainChar T c) :
    c ≠ 40 ∧ c ≠ 41 := by
  rcases h with h | rfl | rfl | ⟨e, he, hc⟩
  · exact (digit_facts h).2.2
  · decide
  · decide
  · have := List.all_eq_true.mp hT e he
    simp only [Bool.and_eq_true, Bool.not_eq_true', List.contains_eq_mem, decide_eq_false_iff_not] at this
    exact ⟨fun h => this.1 (h ▸ hc), fun h => this.2 (h ▸ hc)⟩

theorem RTerm.render_start {T : Table} : ∀ t : RTerm, t.wf T = true →
    ∃ c l, t.render = c :: l ∧ Starts c := fun t h => by
  cases t with
  | elem sym iso cnt =>
    obtain ⟨_, _, hu, _, _⟩ := wf_elem_inv h
    cases sym with
    | nil => cases hu
    | cons c l =>
      exact ⟨c, l ++ rIso iso ++ rOpt cnt, by rw [RTerm.render]; rfl, Or.inl (isUpperStart_of_upper hu)⟩
  | group body cnt => exact ⟨40, body.render ++ [41] ++ rOpt cnt, by rw [RTerm.render]; rfl, Or.inr rfl⟩

theorem RTerms.render_start {T : Table} : ∀ ts : RTerms, ts.nonEmpty = true → ts.wf T = true →
    ∃ c l, ts.render = c :: l ∧ Starts c := fun ts hne h => by
  cases ts with
  | nil => cases hne
  | cons t ts =>
    obtain ⟨c, l, e, hc⟩ := RTerm.render_start t (wf_cons_inv h).1
    exact ⟨c, l ++ ts.render, by rw [RTerms.render, e]; rfl, hc⟩

/-! ### one induction over renderings

The rendering of a well-formed tree is put together from words of plain characters (symbol, bracket, count)
and from `(` … `)` around a rendering that begins with a start character.  A property of texts that these
constructions preserve holds of every rendering. -/

structure RenderClosed (T : Table) (P : List Nat → Prop) : Prop where
  nil : P []
  app : ∀ {a b}, P a → P b → P (a ++ b)
  plain : ∀ w, (∀ c ∈ w, plainChar T c) → P w
  group : ∀ c l, Starts c → P (c :: l) → P (40 :: (c :: l ++ [41]))

mutual
  theorem RenderClosed.term {T : Table} {P : List Nat → Prop} (hP : RenderClosed T P) :
      ∀ t : RTerm, t.wf T = true → P t.render
    | .elem sym iso cnt, h => by
      rw [RTerm.render]
      exact hP.plain _ (elem_chars h)
    | .group body cnt, h => by
      obtain ⟨hne, hb, hcn⟩ := wf_group_inv h
      obtain ⟨c, l, e, hc⟩ := RTerms.render_start body hne hb
      have hbody := hP.terms body hb
      rw [e] at hbody
      rw [RTerm.render, e]
      exact hP.app (hP.group c l hc hbody) (hP.plain _ fun x hx => Or.inl (cnt_chars hcn x hx))
  theorem RenderClosed.terms {T : Table} {P : List Nat → Prop} (hP : RenderClosed T P) :
      ∀ ts : RTerms, ts.wf T = true → P ts.render
    | .nil, _ => by rw [RTerms.render]; exact hP.nil
    | .cons t ts, h => by
      rw [RTerms.render]
      exact hP.app (hP.term t (wf_cons_inv h).1) (hP.terms ts (wf_cons_inv h).2)
end

theorem chars_closed (T : Table) : RenderClosed T fun r => ∀ c ∈ r, formulaChar T c = true where
  nil := nofun
  app ha hb c hc := (List.mem_append.1 hc).elim (ha c) (hb c)
  plain _ h c hc := plainChar_formulaChar (h c hc)
  group c l _ h x hx := by
    simp only [List.mem_cons, List.mem_append, List.not_mem_nil, or_false] at hx
    rcases hx with rfl | hx | rfl
    · rfl
    · exact h x (List.mem_cons.2 hx)
    · rfl

theorem RTerm.render_chars (T : Table) : ∀ t : RTerm, t.wf T = true →
    ∀ c ∈ t.render, formulaChar T c = true :=
  (chars_closed T).term

theorem balancedFrom_skip (d : Nat) : ∀ (l rest : List Nat), (∀ c ∈ l, c ≠ 40 ∧ c ≠ 41) →
    balancedFrom d (l ++ rest) = balancedFrom d rest := fun l rest h => by
  induction l with
  | nil => rfl
  | cons c l ih =>
    have hc := h c List.mem_cons_self
    show (if c == 40 then _ else if c == 41 then _ else _) = _
    rw [if_neg (mt beq_iff_eq.1 hc.1), if_neg (mt beq_iff_eq.1 hc.2)]
    exact ih fun x hx => h x (List.mem_cons_of_mem _ hx)

theorem balancedFrom_open (d : Nat) (rest : List Nat) :
    balancedFrom d (40 :: rest) = balancedFrom (d + 1) rest := rfl

theorem balancedFrom_close (d : Nat) (rest : List Nat) :
    balancedFrom (d + 1) (41 :: rest) = balancedFrom d rest := rfl

theorem balanced_closed (T : Table) (hT : noParenKeys T = true) :
    RenderClosed T fun r => ∀ (d : Nat) (rest : List Nat), balancedFrom d (r ++ rest) = balancedFrom d rest where
  nil _ _ := rfl
  app ha hb d rest := by rw [List.append_assoc, ha, hb]
  plain w h d rest := balancedFrom_skip d w rest fun c hc => plainChar_noParen hT (h c hc)
  group c l _ h d rest := by
    have := h (d + 1) (41 :: rest)
    simp only [List.cons_append, List.append_assoc, List.nil_append] at this ⊢
    rw [balancedFrom_open, this, balancedFrom_close]

theorem RTerm.render_balanced (T : Table) (hT : noParenKeys T = true) : ∀ t : RTerm, t.wf T = true →
    ∀ (d : Nat) (rest : List Nat), balancedFrom d (t.render ++ rest) = balancedFrom d rest :=
  (balanced_closed T hT).term

/-- no `(` is immediately followed by `)` -/
def noEmptyGroup : List Nat → Bool
  | [] => true
  | c :: rest => !(c == 40 && rest.head? == some 41) && noEmptyGroup rest

theorem noEmptyGroup_skip : ∀ (l rest : List Nat), (∀ c ∈ l, c ≠ 40) →
    noEmptyGroup (l ++ rest) = noEmptyGroup rest := fun l rest h => by
  induction l with
  | nil => rfl
  | cons c l ih =>
    rw [List.cons_append, noEmptyGroup, beq_false_of_ne (h c List.mem_cons_self),
      ih fun x hx => h x (List.mem_cons_of_mem _ hx)]
    rfl

theorem noEmptyGroup_infix : ∀ (pre post : List Nat), noEmptyGroup (pre ++ [40, 41] ++ post) = false := fun pre post => by
  induction pre with
  | nil => rfl
  | cons c pre ih => rw [List.cons_append, List.cons_append, noEmptyGroup, ih, Bool.and_false]

theorem noEmptyGroup_closed (T : Table) (hT : noParenKeys T = true) :
    RenderClosed T fun r => ∀ rest : List Nat, noEmptyGroup (r ++ rest) = noEmptyGroup rest where
  nil _ := rfl
  app ha hb rest := by rw [List.append_assoc, ha, hb]
  plain w h rest := noEmptyGroup_skip w rest fun c hc => (plainChar_noParen hT (h c hc)).1
  group c l hc h rest := by
    have := h (41 :: rest)
    simp only [List.cons_append, List.append_assoc, List.nil_append] at this ⊢
    rw [noEmptyGroup, this]
    show (!(true && c == 41) && (!false && noEmptyGroup rest)) = _
    rw [beq_false_of_ne (starts_ne_close hc)]
    rfl

theorem RTerm.render_noEmptyGroup (T : Table) (hT : noParenKeys T = true) : ∀ t : RTerm, t.wf T = true →
    ∀ rest : List Nat, noEmptyGroup (t.render ++ rest) = noEmptyGroup rest :=
  (noEmptyGroup_closed T hT).term

/-- a text without a property that every rendering has is rejected -/
theorem err_of_not_closed (cc : CharClass) (hcc : cc.AsciiOK) (T : Table) (s : List Nat) {P : List Nat → Prop}
    (hP : RenderClosed T P) (h : ¬ P s) : parseFormula cc T s = .err :=
  (parse_ok_or_err cc T s).resolve_left fun ⟨ents, hr⟩ =>
    have ⟨ts, _, hwf, hrd, _⟩ := parse_sound cc hcc T s ents hr
    h (hrd ▸ hP.terms ts hwf)

/-- whitespace, junk and non-ASCII characters: a string containing a character that is not a digit, a bracket,
    a parenthesis or a character of some table symbol is rejected with an error value -/
theorem reject_foreign_char (cc : CharClass) (hcc : cc.AsciiOK) (T : Table) (s : List Nat) (c : Nat)
    (hc : formulaChar T c = false) (hs : c ∈ s) : parseFormula cc T s = .err := by
  refine err_of_not_closed cc hcc T s (chars_closed T) fun hr => ?_
  have := hr c hs
  rw [hc] at this
  cases this

theorem reject_unbalanced (cc : CharClass) (hcc : cc.AsciiOK) (T : Table) (hT : noParenKeys T = true)
    (s : List Nat) (h : balanced s = false) : parseFormula cc T s = .err := by
  refine err_of_not_closed cc hcc T s (balanced_closed T hT) fun hr => ?_
  have := hr 0 []
  rw [List.append_nil] at this
  rw [balanced, this] at h
  cases h

/-- an empty group `()` anywhere in the text is rejected -/
theorem reject_empty_group (cc : CharClass) (hcc : cc.AsciiOK) (T : Table) (hT : noParenKeys T = true)
    (pre post : List Nat) : parseFormula cc T (pre ++ [40, 41] ++ post) = .err := by
  refine err_of_not_closed cc hcc T _ (noEmptyGroup_closed T hT) fun hr => ?_
  have := hr []
  rw [List.append_nil, noEmptyGroup_infix] at this
  cases this

theorem reject_empty (cc : CharClass) (T : Table) : parseFormula cc T [] = .err := by
  rfl

/-- a string that does not start with an ASCII upper-case letter or `(` is rejected -/
theorem reject_bad_start (cc : CharClass) (T : Table) (c : Nat) (rest : List Nat)
    (h1 : isAsciiUpper c = false) (h2 : c ≠ 40) : parseFormula cc T (c :: rest) = .err := by
  have hp : Pend.new.push cc c = none := by
    rw [Pend.push, Pend.start, isUpperStart_eq, h1, if_neg Bool.false_ne_true, if_neg (by simpa using h2)]
  -- no pieces are pending, so the flush that `c` asks for is an error
  rw [parseFormula_eq_arun, arun_flush hp]
  rfl

/-! ### non-vacuity: every hypothesis above is satisfiable, on a one-element table keyed `H` -/

/-- the table with the single element H (isotope 1) -/
def rejT : Table :=
  [ { tkey := [72], sym := [72], isos := [⟨1, 1007825, 999885, 0, 0⟩],
      mostIso := 1, mostMass := 1007825, minShift := 0, maxShift := 0, elemNum := 1 } ]

theorem rejCC_ok : c05cc.AsciiOK := fun _ _ => ⟨rfl, rfl, rfl⟩

example : noParenKeys rejT = true := by decide +kernel
example : formulaChar rejT 32 = false := by decide +kernel  -- a blank
example : formulaChar rejT 233 = false := by decide +kernel -- `é`
example : formulaChar rejT 72 = true := by decide +kernel   -- `H` is a formula character
example : (32 : Nat) ∈ [72, 32, 72] := by decide +kernel
example : balanced [40, 72] = false := by decide +kernel    -- `(H`
example : balanced [72, 41] = false := by decide +kernel    -- `H)`
example : balanced [41, 40] = false := by decide +kernel    -- `)(`
example : balanced [40, 72, 41, 50] = true := by decide +kernel     -- `(H)2`
example : isAsciiUpper 50 = false ∧ (50 : Nat) ≠ 40 := by decide +kernel   -- a text starting with `2`

/-- the conclusions are not trivially true either: well-formed texts are accepted … -/
example : parseFormula c05cc rejT [72, 50] = .ok [(([72], 0), 2)] := by decide +kernel
example : parseFormula c05cc rejT [40, 72, 41, 50] = .ok [(([72], 0), 2)] := by decide +kernel

/-- … and the theorems apply to (and agree with the evaluation of) concrete malformed texts -/
example : parseFormula c05cc rejT [72, 32, 72] = .err :=
  reject_foreign_char c05cc rejCC_ok rejT _ 32 (by decide) (by decide)
example : parseFormula c05cc rejT [40, 72] = .err :=
  reject_unbalanced c05cc rejCC_ok rejT (by decide) _ (by decide)
example : parseFormula c05cc rejT ([72] ++ [40, 41] ++ [50]) = .err :=
  reject_empty_group c05cc rejCC_ok rejT (by decide) [72] [50]
example : parseFormula c05cc rejT [50, 72] = .err :=
  reject_bad_start c05cc rejT 50 [72] (by decide) (by decide)
example : parseFormula c05cc rejT [72, 32, 72] = .err := by decide +kernel
example : parseFormula c05cc rejT [40, 72] = .err := by decide +kernel
example : parseFormula c05cc rejT [72, 40, 41, 50] = .err := by decide +kernel
example : parseFormula c05cc rejT [50, 72] = .err := by decide +kernel
example : parseFormula c05cc rejT [] = .err := by decide +kernel

end Chem
