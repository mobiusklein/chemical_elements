import ChemProofs.Props.C17
/-
Handle bookkeeping of the C binding as an invariant over call sequences (C17: "handles obtained from the library and freed
once").  `handles_balance` (Props/C17.lean) says nothing about `free`; what makes "−1 on free" true is an invariant of the
handle table — the live handles are pairwise distinct and all below the next handle to be issued — which every call
preserves.
-/
namespace Chem

def CState.WF (st : CState) : Prop :=
  (st.live.map (·.1)).Nodup ∧ ∀ x ∈ st.live, x.1 < st.next

theorem CState.init_wf : (⟨[], 0⟩ : CState).WF := by simp [CState.WF]

theorem put_fst (st : CState) (h : Nat) (c : Comp) : (st.put h c).live.map (·.1) = st.live.map (·.1) := by
  simp only [CState.put, List.map_map]
  apply List.map_congr_left
  intro x _
  show (if x.1 == h then (h, c) else x).1 = x.1
  split
  · rename_i hx
    exact (beq_iff_eq.1 hx).symm
  · rfl

theorem put_wf (st : CState) (h : Nat) (c : Comp) (hw : st.WF) : (st.put h c).WF := by
  refine ⟨by rw [put_fst]; exact hw.1, ?_⟩
  intro x hx
  have : x.1 ∈ (st.put h c).live.map (·.1) := List.mem_map_of_mem hx
  rw [put_fst] at this
  obtain ⟨y, hy, he⟩ := List.mem_map.mp this
  rw [← he]
  exact hw.2 y hy

theorem alloc_wf (st : CState) (c : Comp) (hw : st.WF) : (st.alloc c).1.WF := by
  simp only [CState.alloc, CState.WF, List.map_append, List.map_cons, List.map_nil]
  constructor
  · rw [List.nodup_append]
    refine ⟨hw.1, by simp, ?_⟩
    intro a ha b hb
    cases List.mem_singleton.1 hb
    obtain ⟨y, hy, he⟩ := List.mem_map.mp ha
    exact Nat.ne_of_lt (he ▸ hw.2 y hy)
  · intro x hx
    rcases List.mem_append.mp hx with h | h
    · exact Nat.lt_succ_of_lt (hw.2 x h)
    · cases List.mem_singleton.1 h
      exact Nat.lt_succ_self _

/-- the handle `alloc` issues is new: no live entry carries it -/
theorem alloc_fresh (st : CState) (c : Comp) (hw : st.WF) : ∀ x ∈ st.live, x.1 ≠ (st.alloc c).2 := by
  intro x hx
  have := hw.2 x hx
  simp only [CState.alloc]
  omega

theorem filter_wf (st : CState) (h : Nat) (hw : st.WF) :
    ({ st with live := st.live.filter (fun x => !(x.1 == h)) } : CState).WF :=
  ⟨((List.filter_sublist (l := st.live)).map (·.1)).nodup hw.1, fun x hx => hw.2 x (List.mem_filter.mp hx).1⟩

/-- **every call preserves the invariant** (calls outside the contract have no successor state) -/
theorem cstep_wf (cc : CharClass) (T : Table) (m : Key → Int) (st st' : CState) (op : COp) (o : COut)
    (hw : st.WF) (h : cstep cc T m st op = some (.ok (st', o))) : st'.WF := by
  obtain ⟨_, _, heq, he⟩ := cstep_effect cc T m st op _ h
  cases heq
  cases he with
  | same o ho => exact hw
  | alloc c => exact alloc_wf st c hw
  | put hh c => exact put_wf st hh c hw
  | free hh c hop hf => exact filter_wf st hh hw

/-- a sequence of calls, as long as each is inside the contract and returns a value -/
def crun (cc : CharClass) (T : Table) (m : Key → Int) : CState → List COp → Option CState
  | st, [] => some st
  | st, op :: ops => match cstep cc T m st op with
    | some (.ok (st', _)) => crun cc T m st' ops
    | _ => none

theorem crun_wf (cc : CharClass) (T : Table) (m : Key → Int) (ops : List COp) (st st' : CState)
    (hw : st.WF) (h : crun cc T m st ops = some st') : st'.WF := by
  fun_induction crun cc T m st ops with
  | case1 st => exact Option.some.inj h ▸ hw
  | case2 st op ops st1 o hs ih => exact ih (cstep_wf cc T m st st1 op o hw hs) h
  | case3 => cases h

theorem crun_append (cc : CharClass) (T : Table) (m : Key → Int) (l l' : List COp) (st : CState) :
    crun cc T m st (l ++ l') = (crun cc T m st l).bind fun st' => crun cc T m st' l' := by
  fun_induction crun cc T m st l with
  | case1 st => rfl
  | case2 st op ops st1 o hs ih =>
    rw [List.cons_append, crun, hs]
    exact ih
  | case3 st op ops hs =>
    rw [List.cons_append, crun]
    split
    · next h => exact absurd h (hs _ _)
    · rfl

theorem filter_length_of_nodup (l : List (Nat × Comp)) (h : Nat) (hn : (l.map (·.1)).Nodup)
    (hm : ∃ x ∈ l, x.1 = h) : (l.filter (fun x => !(x.1 == h))).length + 1 = l.length := by
  obtain ⟨x, hx, rfl⟩ := hm
  -- on the duplicate-free list of handles the filter is `erase`
  have := List.length_erase_of_mem (List.mem_map_of_mem (f := (·.1)) hx)
  rw [hn.erase_eq_filter, List.filter_map, List.length_map, List.length_map] at this
  show (l.filter ((· != x.1) ∘ (·.1))).length + 1 = l.length
  rw [this]
  exact Nat.sub_add_cancel (List.length_pos_of_mem hx)

/-- **`free` removes exactly one handle**, and that handle is dead afterwards -/
theorem free_balance (cc : CharClass) (T : Table) (m : Key → Int) (st st' : CState) (hh : Nat) (o : COut)
    (hw : st.WF) (h : cstep cc T m st (.free hh) = some (.ok (st', o))) :
    st'.live.length + 1 = st.live.length ∧ st'.find hh = none ∧ o.rc = 0 := by
  simp only [cstep] at h
  cases hf : st.find hh <;> simp [hf] at h
  obtain ⟨rfl, rfl⟩ := h
  have hm : ∃ x ∈ st.live, x.1 = hh := by
    simp only [CState.find, Option.map_eq_some_iff] at hf
    obtain ⟨x, hx, _⟩ := hf
    exact ⟨x, find?_key_some hx⟩
  refine ⟨filter_length_of_nodup st.live hh hw.1 hm, ?_, rfl⟩
  simp only [CState.find, Option.map_eq_none_iff]
  apply List.find?_eq_none.mpr
  intro x hx
  have := (List.mem_filter.mp hx).2
  simpa using this

/-- non-vacuity of `WF`: the empty handle table, and one with two live handles (a run of the binding is in
    `Inst/C17Ex.lean`) -/
example : (⟨[], 0⟩ : CState).WF ∧ (⟨[(0, Comp.empty .evec), (2, Comp.empty .evec)], 3⟩ : CState).WF := by
  unfold CState.WF
  decide +kernel

end Chem
