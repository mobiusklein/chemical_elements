import ChemProofs.Model.Formula
import ChemProofs.Spec.Grammar
import ChemProofs.Lemmas.Ents
import ChemProofs.Props.C01
import ChemProofs.Lemmas.Sort
/-
C07 — the displayed formula text is canonical and round-trips (model of `to_formula`, `Model/Formula.lean`).
Core Lean only.

Canonical: `keyLt` is a strict total order and `sortEnts` is the insertion sort of `Lemmas/Sort.lean` by key, so
duplicate-free entry lists with the same finite-map view sort to the same list (`sortEnts_of_same_map`) and display as
the same text (`toFormula_canonical`), whatever the form, the cache and the insertion order.

Round trip: for a composition with distinct readable keys and positive `i32` counts (`Displayable`) the text is the
rendering of a well-formed term list `astOf c` that denotes the composition (`display_is_render`), so C01 applies
(`display_roundtrip`, `roundtrip`, `display_parse_display`); `display_order` describes the text of any duplicate-free
composition.  `c.ents ≠ []` is necessary: the empty composition displays as "" and `parseFormula _ _ [] = .err`.
Positivity is necessary: a negative count is displayed with `-`, which the parser rejects (examples at the end).
No hypothesis on `quickCheckStr` is needed: "C" and "H" pass it for every `cc` with `AsciiOK`.
-/
namespace Chem

/-- the symbol order of `to_formula` and the key order of `build.rs` are written out twice in the model -/
theorem lexLtSym_eq : ∀ a b : List Nat, keyLt.lexLtSym a b = lexLt a b := fun a => by
  induction a with
  | nil => exact fun b => by cases b <;> rfl
  | cons x a ih =>
    intro b
    cases b with
    | nil => rfl
    | cons y b => rw [keyLt.lexLtSym, lexLt, ih b]

abbrev entLt (a b : Key × Int) : Bool := keyLt a.1 b.1

theorem insertKey_eq (e : Key × Int) (l : Ents) : insertKey e l = insertSorted entLt e l := by
  induction l with
  | nil => rfl
  | cons y ys ih => simp only [insertKey, insertSorted, ih]

theorem sortEnts_eq (l : Ents) : sortEnts l = stableSort entLt l := by
  unfold sortEnts stableSort
  congr
  funext acc e
  exact insertKey_eq e acc

theorem lexLtSym_asymm {a b : List Nat} :
    keyLt.lexLtSym a b = true → keyLt.lexLtSym b a = false := by
  rw [lexLtSym_eq, lexLtSym_eq]
  exact (lexLt_strictWeak id).asymm

theorem keyLt_iff (a b : Key) : keyLt a b = true ↔ a.1 < b.1 ∨ (a.1 = b.1 ∧ a.2 < b.2) := by
  simp [keyLt, lexLtSym_eq, lexLt_iff]

theorem keyLt_irrefl (a : Key) : keyLt a a = false := by
  rw [Bool.eq_false_iff, Ne, keyLt_iff]
  rintro (h | ⟨_, h⟩)
  · exact List.lt_irrefl _ h
  · omega

theorem keyLt_trans {a b c : Key} : keyLt a b = true → keyLt b c = true → keyLt a c = true := by
  rw [keyLt_iff, keyLt_iff, keyLt_iff]
  rintro (h1 | ⟨e1, h1⟩) (h2 | ⟨e2, h2⟩)
  · exact Or.inl (List.lt_trans h1 h2)
  · exact Or.inl (e2 ▸ h1)
  · exact Or.inl (e1 ▸ h2)
  · exact Or.inr ⟨e1.trans e2, Nat.lt_trans h1 h2⟩

theorem keyLt_connected (a b : Key) (h1 : keyLt a b = false) (h2 : keyLt b a = false) : a = b := by
  rw [Bool.eq_false_iff, Ne, keyLt_iff, not_or, not_and] at h1 h2
  have hs : a.1 = b.1 := List.le_antisymm h2.1 h1.1
  exact Prod.ext hs (Nat.le_antisymm (Nat.not_lt.1 (h2.2 hs.symm)) (Nat.not_lt.1 (h1.2 hs)))

theorem keyLt_total (a b : Key) (hne : a ≠ b) : keyLt a b = true ∨ keyLt b a = true :=
  Classical.byContradiction fun h => hne <| keyLt_connected a b
    (eq_false_of_ne_true fun h1 => h (.inl h1)) (eq_false_of_ne_true fun h2 => h (.inr h2))

theorem keyLt_strictWeak {β : Type} (f : β → Key) : StrictWeak fun a b => keyLt (f a) (f b) :=
  .of_strictTotal keyLt_irrefl (fun _ _ _ => keyLt_trans) keyLt_connected f

theorem keyLt_asymm {a b : Key} (h : keyLt a b = true) : keyLt b a = false :=
  (keyLt_strictWeak id).asymm h

theorem sortEnts_perm (l : Ents) : (sortEnts l).Perm l := sortEnts_eq l ▸ stableSort_perm entLt l

theorem sortEnts_sorted (l : Ents) (h : l.NoDupKeys) :
    List.Pairwise (fun a b => keyLt a.1 b.1 = true) (sortEnts l) := by
  have hw : SortedBy entLt (sortEnts l) := sortEnts_eq l ▸ stableSort_sorted (keyLt_strictWeak Prod.fst) l
  have hn : (sortEnts l).Pairwise (fun a b => a.1 ≠ b.1) :=
    List.pairwise_map.1 (h.perm (sortEnts_perm l).symm)
  exact (hw.and hn).imp fun ⟨h1, h2⟩ => (keyLt_total _ _ h2).resolve_right (ne_true_of_eq_false h1)

/-- **canonical**: duplicate-free permutations of each other sort to the same list -/
theorem sortEnts_canonical (a b : Ents) (ha : a.NoDupKeys) (hp : a.Perm b) :
    sortEnts a = sortEnts b :=
  (((sortEnts_perm a).trans hp).trans (sortEnts_perm b).symm).eq_of_pairwise
    (fun _ _ _ _ h1 h2 => by rw [keyLt_asymm h1] at h2; cases h2)
    (sortEnts_sorted a ha) (sortEnts_sorted b (ha.perm hp))

theorem perm_of_same_map (a b : Ents) (ha : a.NoDupKeys) (hb : b.NoDupKeys)
    (hsame : ∀ k, Ents.abs a k = Ents.abs b k) : a.Perm b :=
  (Ents.perm_iff_same_abs a b ha hb).2 hsame

/-- **canonical, finite-map form**: duplicate-free lists denoting the same finite map sort to
    the same list -/
theorem sortEnts_of_same_map (a b : Ents) (ha : a.NoDupKeys) (hb : b.NoDupKeys)
    (hsame : ∀ k, Ents.abs a k = Ents.abs b k) : sortEnts a = sortEnts b :=
  sortEnts_canonical a b ha (perm_of_same_map a b ha hb hsame)

theorem strIndex_of_same_map (cc : CharClass) (T : Table) (c c' : Comp)
    (hsame : ∀ k, Ents.abs c.ents k = Ents.abs c'.ents k) (s : Sym) :
    c.strIndex cc T s = c'.strIndex cc T s := by
  unfold Comp.strIndex Ents.getStr
  split
  · exact Ents.get_of_same_map hsame _
  · rfl
  · split
    · exact Ents.get_of_same_map hsame _
    · rfl

/-- **display is canonical**: the text of `to_formula` depends only on the finite map a
    composition denotes — not on the representation `form`, the cache or the insertion order -/
theorem toFormula_canonical (cc : CharClass) (T : Table) (c c' : Comp)
    (h : c.ents.NoDupKeys) (h' : c'.ents.NoDupKeys)
    (hsame : ∀ k, Ents.abs c.ents k = Ents.abs c'.ents k) :
    toFormula cc T c = toFormula cc T c' := by
  unfold toFormula
  rw [strIndex_of_same_map cc T c c' hsame [67], strIndex_of_same_map cc T c c' hsame [72],
    sortEnts_of_same_map c.ents c'.ents h h' hsame]

/-! ### non-vacuity -/

-- O2 H5 C2 13C1 in two insertion orders: same sorted list
example :
    sortEnts [(([79], 0), 2), (([72], 0), 5), (([67], 0), 2), (([67], 13), 1)]
      = sortEnts [(([67], 13), 1), (([67], 0), 2), (([79], 0), 2), (([72], 0), 5)] := by decide +kernel

example :
    sortEnts [(([79], 0), 2), (([72], 0), 5), (([67], 0), 2), (([67], 13), 1)]
      = [(([67], 0), 2), (([67], 13), 1), (([72], 0), 5), (([79], 0), 2)] := by decide +kernel

-- "Na" < "O", and prefix order "N" < "Na"
example : sortEnts [(([79], 0), 1), (([78, 97], 0), 1), (([78], 0), 3)]
    = [(([78], 0), 3), (([78, 97], 0), 1), (([79], 0), 1)] := by decide +kernel

example : keyLt ([67], 0) ([67], 13) = true := by decide +kernel
example : keyLt ([67], 13) ([72], 0) = true := by decide +kernel

/-- ASCII character classes, for the concrete examples -/
def asciiCC : CharClass := ⟨isAsciiAlpha, isAsciiDigit, isAsciiUpper⟩

-- O2, H5, C2, 13C1 displayed: "C2H5C[13]1O2"  (both stores, either insertion order)
example :
    toFormula asciiCC [] ⟨.vec, [(([79], 0), 2), (([72], 0), 5), (([67], 0), 2), (([67], 13), 1)], none⟩
      = [67, 50, 72, 53, 67, 91, 49, 51, 93, 49, 79, 50] := by decide +kernel

example :
    toFormula asciiCC [] ⟨.emap, [(([67], 13), 1), (([67], 0), 2), (([79], 0), 2), (([72], 0), 5)], some 7⟩
      = [67, 50, 72, 53, 67, 91, 49, 51, 93, 49, 79, 50] := by decide +kernel

-- negative count and no carbon: "H-1Na1"
example : toFormula asciiCC [] ⟨.map, [(([78, 97], 0), 1), (([72], 0), -1)], none⟩
    = [72, 45, 49, 78, 97, 49] := by decide +kernel

-- the hypotheses of `toFormula_canonical` are satisfiable by genuinely different representations
example : toFormula asciiCC [] ⟨.vec, [(([79], 0), 2), (([72], 0), 5)], none⟩
    = toFormula asciiCC [] ⟨.emap, [(([72], 0), 5), (([79], 0), 2)], some 3⟩ :=
  have h : Ents.NoDupKeys [(([79], 0), 2), (([72], 0), 5)] := by unfold Ents.NoDupKeys; decide +kernel
  have hp : ([(([79], 0), 2), (([72], 0), 5)] : Ents).Perm [(([72], 0), 5), (([79], 0), 2)] := .swap _ _ _
  toFormula_canonical _ _ _ _ h (h.perm hp) ((Ents.perm_iff_same_abs _ _ h (h.perm hp)).1 hp)

open Spec

/-- is the key plain carbon `C` or plain hydrogen `H` (no fixed isotope)? -/
def isCHk (k : Key) : Bool := (k.1 == [67] || k.1 == [72]) && k.2 == 0

/-- the entries displayed after the `C`/`H` head: everything else, in canonical order -/
def restOf (l : Ents) : Ents := (sortEnts l).filter (fun e => !isCHk e.1)

/-- the `C` entry (if its count is non-zero) and then the `H` entry (likewise) -/
def headOf (l : Ents) : Ents :=
  (if l.get ([67], 0) != 0 then [(([67], 0), l.get ([67], 0))] else []) ++
  (if l.get ([72], 0) != 0 then [(([72], 0), l.get ([72], 0))] else [])

def displayEnts (l : Ents) : Ents := headOf l ++ restOf l

/-- one displayed entry as a term of the grammar: symbol, optional isotope, explicit count -/
def termOf (e : Key × Int) : Term :=
  .elem e.1.1 (if e.1.2 = 0 then none else some e.1.2) (some e.2.natAbs)

def termsOf : Ents → Terms
  | [] => .nil
  | e :: r => .cons (termOf e) (termsOf r)

/-- the abstract syntax of the displayed text -/
def astOf (c : Comp) : Terms := termsOf (displayEnts c.ents)

/-- the text of one entry, exactly as `toFormula` writes it -/
def entText (e : Key × Int) : List Nat :=
  if e.1.2 != 0 then e.1.1 ++ [91] ++ natDigits e.1.2 ++ [93] ++ intDigits e.2
  else e.1.1 ++ intDigits e.2

/-- a key the parser can read back: a table symbol beginning with an upper-case letter, stored under
    itself, and either no isotope or an isotope (≤ 65535) of that element -/
def KeyOK (T : Table) (k : Key) : Prop :=
  match T.find? k.1 with
  | some el => el.sym = k.1 ∧ isUpperHead k.1 = true ∧
      (k.2 = 0 ∨ (k.2 ≤ 65535 ∧ (el.iso? k.2).isSome = true))
  | none => False

instance (T : Table) (k : Key) : Decidable (KeyOK T k) := by
  unfold KeyOK
  cases T.find? k.1 <;> exact inferInstance

structure Displayable (T : Table) (c : Comp) : Prop where
  nodup : c.ents.NoDupKeys
  pos : ∀ e ∈ c.ents, 0 < e.2 ∧ e.2 ≤ 2147483647
  keys : ∀ e ∈ c.ents, KeyOK T e.1

instance (T : Table) (c : Comp) : Decidable (Displayable T c) :=
  if h1 : c.ents.keys.Nodup then
    if h2 : ∀ e ∈ c.ents, 0 < e.2 ∧ e.2 ≤ 2147483647 then
      if h3 : ∀ e ∈ c.ents, KeyOK T e.1 then isTrue ⟨h1, h2, h3⟩
      else isFalse (fun h => h3 h.keys)
    else isFalse (fun h => h2 h.pos)
  else isFalse (fun h => h1 h.nodup)

theorem quickCheck_letter (cc : CharClass) (hcc : cc.AsciiOK) (c : Nat) (h : c < 128)
    (ha : isAsciiAlpha c = true) : quickCheckStr cc [c] = .yes := by
  have : cc.alpha c = true := (hcc c h).1.trans ha
  simp [quickCheckStr, byteLen, utf8Len, h, this]

theorem strIndex_of_yes (cc : CharClass) (T : Table) (c : Comp) (s : Sym)
    (h : quickCheckStr cc s = .yes) : c.strIndex cc T s = c.ents.get (s, 0) := by
  unfold Comp.strIndex
  rw [h]
  rfl

theorem toFormula_eq_head_rest (cc : CharClass) (hcc : cc.AsciiOK) (T : Table) (c : Comp) :
    toFormula cc T c =
      ((if c.ents.get ([67], 0) != 0 then 67 :: intDigits (c.ents.get ([67], 0)) else []) ++
       (if c.ents.get ([72], 0) != 0 then 72 :: intDigits (c.ents.get ([72], 0)) else [])) ++
      (restOf c.ents).flatMap entText := by
  unfold toFormula
  rw [strIndex_of_yes cc T c [67] (quickCheck_letter cc hcc 67 (by decide) (by decide)),
    strIndex_of_yes cc T c [72] (quickCheck_letter cc hcc 72 (by decide) (by decide))]
  rfl

theorem headOf_text (l : Ents) :
    (headOf l).flatMap entText =
      (if l.get ([67], 0) != 0 then 67 :: intDigits (l.get ([67], 0)) else []) ++
      (if l.get ([72], 0) != 0 then 72 :: intDigits (l.get ([72], 0)) else []) := by
  unfold headOf
  rw [List.flatMap_append]
  congr 1 <;> (split <;> simp [entText])

theorem toFormula_eq_flatMap (cc : CharClass) (hcc : cc.AsciiOK) (T : Table) (c : Comp) :
    toFormula cc T c = (displayEnts c.ents).flatMap entText := by
  rw [toFormula_eq_head_rest cc hcc T c, displayEnts, List.flatMap_append, headOf_text]

theorem isCHk_iff (k : Key) : isCHk k = true ↔ k = ([67], 0) ∨ k = ([72], 0) := by
  simp only [isCHk, Bool.and_eq_true, Bool.or_eq_true, beq_iff_eq, Prod.ext_iff, or_and_right]

theorem mem_optEntry {k0 : Key} {v : Int} {e : Key × Int} (h : e ∈ (if v != 0 then [(k0, v)] else [])) :
    e = (k0, v) ∧ v ≠ 0 := by
  split at h
  · rename_i hne
    exact ⟨List.mem_singleton.1 h, by simpa using hne⟩
  · cases h

theorem sumFor_optEntry (k0 k : Key) (v : Int) :
    Ents.sumFor (if v != 0 then [(k0, v)] else []) k = if k0 = k then v else 0 := by
  by_cases hv : v = 0
  · subst hv
    exact (ite_self _).symm
  · rw [if_pos (bne_iff_ne.2 hv), Ents.sumFor_cons, Ents.sumFor_nil, Int.add_zero]

theorem mem_headOf {l : Ents} {e : Key × Int} (h : e ∈ headOf l) : e ∈ l := by
  rcases List.mem_append.1 h with h | h
  all_goals
    obtain ⟨rfl, hne⟩ := mem_optEntry h
    exact Ents.mem_of_get_ne_zero l _ hne

theorem mem_restOf {l : Ents} {e : Key × Int} :
    e ∈ restOf l ↔ e ∈ l ∧ e.1 ≠ ([67], 0) ∧ e.1 ≠ ([72], 0) := by
  rw [restOf, List.mem_filter, (sortEnts_perm l).mem_iff, Bool.not_eq_true', ← Bool.not_eq_true, isCHk_iff, not_or]

theorem mem_displayEnts {l : Ents} {e : Key × Int} (h : e ∈ displayEnts l) : e ∈ l := by
  rcases List.mem_append.1 h with h | h
  · exact mem_headOf h
  · exact (mem_restOf.1 h).1

theorem intDigits_nonneg (n : Int) (h : 0 ≤ n) : intDigits n = natDigits n.natAbs := by
  unfold intDigits
  rw [if_neg (by omega)]

theorem render_termOf (e : Key × Int) (h : 0 ≤ e.2) : (termOf e).render = entText e := by
  unfold termOf entText
  rw [render_elem, intDigits_nonneg _ h]
  by_cases hz : e.1.2 = 0 <;> simp [hz, isoR, renderCount]

theorem render_termsOf (l : Ents) (h : ∀ e ∈ l, 0 ≤ e.2) : (termsOf l).render = l.flatMap entText := by
  induction l with
  | nil => simp [termsOf, render_nil]
  | cons e r ih =>
    rw [termsOf, render_cons, render_termOf e (h e List.mem_cons_self),
      ih (fun x hx => h x (List.mem_cons_of_mem _ hx)), List.flatMap_cons]

theorem wft_termOf (T : Table) (e : Key × Int) (hk : KeyOK T e.1)
    (hc : 0 < e.2 ∧ e.2 ≤ 2147483647) : WFt T (termOf e) := by
  unfold termOf
  simp only [WFt]
  unfold KeyOK at hk
  cases hf : T.find? e.1.1 with
  | none => rw [hf] at hk; exact hk.elim
  | some el =>
    rw [hf] at hk
    dsimp only at hk ⊢
    refine ⟨⟨hk.1, hk.2.1, ?_⟩, ?_⟩
    · by_cases hz : e.1.2 = 0
      · simp [hz, isoOK]
      · rw [if_neg hz]
        rcases hk.2.2 with h | h
        · exact absurd h hz
        · exact ⟨hz, h.1, h.2⟩
    · show e.2.natAbs ≤ 2147483647
      exact Int.ofNat_le.1 (le_of_eq_of_le (Int.natAbs_of_nonneg (Int.le_of_lt hc.1)) hc.2)

theorem wf_termsOf (T : Table) (l : Ents) (hk : ∀ e ∈ l, KeyOK T e.1)
    (hc : ∀ e ∈ l, 0 < e.2 ∧ e.2 ≤ 2147483647) : WF T (termsOf l) := by
  induction l with
  | nil => simp [termsOf, WF]
  | cons e r ih =>
    simp only [termsOf, WF]
    exact ⟨wft_termOf T e (hk e List.mem_cons_self) (hc e List.mem_cons_self),
      ih (fun x hx => hk x (List.mem_cons_of_mem _ hx)) (fun x hx => hc x (List.mem_cons_of_mem _ hx))⟩

theorem termsOf_ne_nil (l : Ents) (h : l ≠ []) : termsOf l ≠ .nil := by
  cases l with
  | nil => exact absurd rfl h
  | cons e r => simp [termsOf]

/-- isotope 0 is displayed as "no isotope" and read back as 0 -/
theorem isoOf_getD (n : Nat) : (if n = 0 then (none : Option Nat) else some n).getD 0 = n := by
  split
  · rename_i h
    simp [h]
  · rfl

theorem denote_termOf (e : Key × Int) (k : Key) :
    (termOf e).denote k = if e.1 = k then (e.2.natAbs : Int) else 0 := by
  unfold termOf
  simp only [Term.denote]
  rw [isoOf_getD]
  by_cases h : e.1 = k
  · subst h
    simp
  · have : ¬ k = (e.1.1, e.1.2) := fun x => h x.symm
    simp [h, this]

theorem denote_termsOf (l : Ents) (h : ∀ e ∈ l, 0 ≤ e.2) (k : Key) :
    (termsOf l).denote k = Ents.sumFor l k := by
  induction l with
  | nil => simp [termsOf, Terms.denote, Ents.sumFor]
  | cons e r ih =>
    simp only [termsOf, Terms.denote]
    rw [denote_termOf, Ents.sumFor_cons, ih (fun x hx => h x (List.mem_cons_of_mem _ hx)),
      Int.natAbs_of_nonneg (h e List.mem_cons_self)]

theorem mentioned_termsOf (l : Ents) : (termsOf l).mentioned = l.keys := by
  induction l with
  | nil => simp [termsOf, Terms.mentioned, Ents.keys]
  | cons e r ih =>
    simp only [termsOf, Terms.mentioned, termOf, Term.mentioned, ih, Ents.keys_cons]
    rw [isoOf_getD]
    rfl

theorem sumFor_headOf (l : Ents) (k : Key) :
    Ents.sumFor (headOf l) k = if isCHk k then l.get k else 0 := by
  rw [headOf, Ents.sumFor_append, sumFor_optEntry, sumFor_optEntry]
  by_cases hC : ([67], 0) = k
  · subst hC
    simp [isCHk_iff]
  · by_cases hH : ([72], 0) = k
    · subst hH
      simp [isCHk_iff]
    · have : isCHk k = false := by
        rw [Bool.eq_false_iff, Ne, isCHk_iff]
        rintro (rfl | rfl)
        · exact hC rfl
        · exact hH rfl
      simp [hC, hH, this]

theorem sumFor_displayEnts (l : Ents) (h : l.NoDupKeys) (k : Key) :
    Ents.sumFor (displayEnts l) k = l.get k := by
  unfold displayEnts
  rw [Ents.sumFor_append, sumFor_headOf]
  unfold restOf
  rw [Ents.sumFor_filter_key (fun k => !isCHk k) (sortEnts l) k]
  have hs : (sortEnts l).NoDupKeys := h.perm (sortEnts_perm l).symm
  have hg : Ents.sumFor (sortEnts l) k = l.get k := by
    rw [Ents.sumFor_nodup _ _ hs]
    exact Ents.get_of_same_map ((Ents.perm_iff_same_abs _ _ hs h).1 (sortEnts_perm l)) k
  cases hk : isCHk k
  · simp [hg]
  · simp

theorem get_nonneg (l : Ents) (h : ∀ e ∈ l, 0 < e.2) (k : Key) : 0 ≤ l.get k := by
  by_cases hz : l.get k = 0
  · exact Int.le_of_eq hz.symm
  · exact Int.le_of_lt (h _ (Ents.mem_of_get_ne_zero l k hz))

/-- **display is a rendering**: the displayed text of a composition (positive counts in `i32` range,
    distinct valid keys) is the text of the term list `astOf c` — `C`, then `H`, then every other entry
    in (symbol, isotope) order, each with its isotope (if fixed) and an explicit count —; that term
    list is well formed, non-empty when the composition is, and denotes exactly the composition. -/
theorem display_is_render (cc : CharClass) (hcc : cc.AsciiOK) (T : Table) (c : Comp)
    (hc : Displayable T c) :
    toFormula cc T c = (astOf c).render ∧ WF T (astOf c) ∧ (c.ents ≠ [] → astOf c ≠ .nil) ∧
      (∀ k, (astOf c).denote k = c.ents.get k) ∧ (∀ k ∈ (astOf c).mentioned, k ∈ c.ents.keys) := by
  have hpos : ∀ e ∈ displayEnts c.ents, 0 < e.2 ∧ e.2 ≤ 2147483647 :=
    fun e he => hc.pos e (mem_displayEnts he)
  have hnn : ∀ e ∈ displayEnts c.ents, 0 ≤ e.2 := fun e he => Int.le_of_lt (hpos e he).1
  refine ⟨?_, ?_, ?_, ?_, ?_⟩
  · rw [toFormula_eq_flatMap cc hcc T c]
    exact (render_termsOf _ hnn).symm
  · exact wf_termsOf T _ (fun e he => hc.keys e (mem_displayEnts he)) hpos
  · refine fun hne => termsOf_ne_nil _ fun hd => ?_
    -- an entry of `c` has a non-zero count, and the displayed entries list that count for its key
    obtain ⟨e, he⟩ := List.exists_mem_of_ne_nil _ hne
    have hs := sumFor_displayEnts c.ents hc.nodup e.1
    rw [hd, Ents.get_of_mem hc.nodup he] at hs
    exact absurd hs.symm (Int.ne_of_gt (hc.pos e he).1)
  · intro k
    unfold astOf
    rw [denote_termsOf _ hnn, sumFor_displayEnts _ hc.nodup]
  · intro k hk
    unfold astOf at hk
    rw [mentioned_termsOf] at hk
    obtain ⟨e, he, rfl⟩ := List.mem_map.1 hk
    exact List.mem_map.2 ⟨e, mem_displayEnts he, rfl⟩

/-- **round trip**: the displayed text of a non-empty composition parses, and the parsed composition
    gives every key the count it had, has pairwise distinct keys, and has the same finite-map view. -/
theorem display_roundtrip (cc : CharClass) (hcc : cc.AsciiOK) (T : Table) (hT : SymbolsOK cc T)
    (c : Comp) (hc : Displayable T c) (hne : c.ents ≠ []) :
    ∃ ents', parseFormula cc T (toFormula cc T c) = .ok ents' ∧ (∀ k, ents'.get k = c.ents.get k) ∧
      ents'.NoDupKeys ∧ (∀ k, Ents.abs ents' k = Ents.abs c.ents k) := by
  obtain ⟨hr, hwf, hnil, hden, hment⟩ := display_is_render cc hcc T c hc
  obtain ⟨ents', hp, hext⟩ := parseA_ok cc hcc T hT _ (astOf c) (hnil hne) hwf (Nat.lt_succ_self _)
  have hget : ∀ k, ents'.get k = c.ents.get k := fun k => by rw [hext.get, hden, Ents.get_nil, Int.zero_add]
  refine ⟨ents', by rw [hr, parseFormula]; exact hp, hget, hext.nodup, fun k => ?_⟩
  by_cases hk : k ∈ c.ents.keys
  · obtain ⟨e, he, rfl⟩ := List.mem_map.1 hk
    rw [(Ents.mem_iff_abs c.ents hc.nodup e).1 he]
    exact Ents.abs_of_get_ne_zero (by rw [hget, Ents.get_of_mem hc.nodup he]) (Int.ne_of_gt (hc.pos e he).1)
  · rw [(Ents.abs_eq_none_iff c.ents k).2 hk]
    exact (Ents.abs_eq_none_iff _ _).2 fun hk2 => hk (hment k (hext.keys_of_nil hk2))

/-- C07 as the property states it: the displayed text parses back to a composition with the same counts -/
theorem roundtrip (cc : CharClass) (hcc : cc.AsciiOK) (T : Table) (hT : SymbolsOK cc T)
    (c : Comp) (hc : Displayable T c) (hne : c.ents ≠ []) :
    ∃ ents', parseFormula cc T (toFormula cc T c) = .ok ents' ∧ ∀ k, ents'.get k = c.ents.get k := by
  obtain ⟨ents', h1, h2, _⟩ := display_roundtrip cc hcc T hT c hc hne
  exact ⟨ents', h1, h2⟩

/-- parsing the displayed text and displaying again gives the same text (any store form) -/
theorem display_parse_display (cc : CharClass) (hcc : cc.AsciiOK) (T : Table) (hT : SymbolsOK cc T)
    (c : Comp) (hc : Displayable T c) (hne : c.ents ≠ []) (f : Form) (cache : Option Int) :
    ∃ ents', parseFormula cc T (toFormula cc T c) = .ok ents' ∧
      toFormula cc T ⟨f, ents', cache⟩ = toFormula cc T c := by
  obtain ⟨ents', h1, _, hnd, habs⟩ := display_roundtrip cc hcc T hT c hc hne
  exact ⟨ents', h1, toFormula_canonical cc T ⟨f, ents', cache⟩ c hnd hc.nodup habs⟩

/-- **display order**: the text is the `C` entry (if its count is non-zero), then the `H` entry
    (likewise), then the remaining entries; the keys of the remaining entries are strictly increasing
    in (symbol, isotope) order, are exactly the keys of the composition other than plain `C` and plain
    `H` — so `C[13]` or `H[2]` are among them. -/
theorem display_order (cc : CharClass) (hcc : cc.AsciiOK) (T : Table) (c : Comp)
    (hnd : c.ents.NoDupKeys) :
    toFormula cc T c =
      (if c.ents.get ([67], 0) != 0 then 67 :: intDigits (c.ents.get ([67], 0)) else []) ++
      (if c.ents.get ([72], 0) != 0 then 72 :: intDigits (c.ents.get ([72], 0)) else []) ++
      (restOf c.ents).flatMap entText ∧
    List.Pairwise (fun a b => keyLt a b = true) (restOf c.ents).keys ∧
    (∀ k, k ∈ (restOf c.ents).keys ↔ k ∈ c.ents.keys ∧ k ≠ ([67], 0) ∧ k ≠ ([72], 0)) ∧
    (∀ e, e ∈ restOf c.ents ↔ e ∈ c.ents ∧ e.1 ≠ ([67], 0) ∧ e.1 ≠ ([72], 0)) := by
  refine ⟨toFormula_eq_head_rest cc hcc T c, ?_, fun k => ?_, fun e => mem_restOf⟩
  · unfold Ents.keys
    rw [List.pairwise_map]
    exact (sortEnts_sorted c.ents hnd).sublist List.filter_sublist
  · simp only [Ents.keys, List.mem_map]
    constructor
    · rintro ⟨e, he, rfl⟩
      exact ⟨⟨e, (mem_restOf.1 he).1, rfl⟩, (mem_restOf.1 he).2⟩
    · rintro ⟨⟨e, he, rfl⟩, h2⟩
      exact ⟨e, mem_restOf.2 ⟨he, h2⟩, rfl⟩

/-! ### non-vacuity of the round trip -/

/-- a three-element table: C (isotopes 12, 13), H (1, 2), O (16) -/
def tinyTable : Table :=
  [ { tkey := [67], sym := [67], isos := [⟨12, 12000000, 989300, 12, 0⟩, ⟨13, 13003355, 10700, 13, 1⟩],
      mostIso := 12, mostMass := 12000000, minShift := 0, maxShift := 1, elemNum := 6 },
    { tkey := [72], sym := [72], isos := [⟨1, 1007825, 999885, 1, 0⟩, ⟨2, 2014102, 115, 2, 1⟩],
      mostIso := 1, mostMass := 1007825, minShift := 0, maxShift := 1, elemNum := 1 },
    { tkey := [79], sym := [79], isos := [⟨16, 15994915, 1000000, 16, 0⟩],
      mostIso := 16, mostMass := 15994915, minShift := 0, maxShift := 0, elemNum := 8 } ]

/-- O2 H5 C2 and one fixed carbon-13, in insertion order -/
def tinyComp : Comp := ⟨.vec, [(([79], 0), 2), (([72], 0), 5), (([67], 13), 1), (([67], 0), 2)], none⟩

example : SymbolsOK asciiCC tinyTable := by decide +kernel
example : asciiCC.AsciiOK := fun _ _ => ⟨rfl, rfl, rfl⟩
example : Displayable tinyTable tinyComp := by decide +kernel

-- the term list: C2 H5 C[13]1 O2
example : astOf tinyComp =
    .cons (.elem [67] none (some 2)) (.cons (.elem [72] none (some 5))
      (.cons (.elem [67] (some 13) (some 1)) (.cons (.elem [79] none (some 2)) .nil))) := rfl

-- "C2H5C[13]1O2"
example : toFormula asciiCC tinyTable tinyComp = [67, 50, 72, 53, 67, 91, 49, 51, 93, 49, 79, 50] := by
  decide +kernel
example : toFormula asciiCC tinyTable tinyComp = (astOf tinyComp).render := by decide +kernel
example : WF tinyTable (astOf tinyComp) := by decide +kernel

-- the text parses back to the same entries (here in display order)
example : parseFormula asciiCC tinyTable (toFormula asciiCC tinyTable tinyComp)
    = .ok [(([67], 0), 2), (([72], 0), 5), (([67], 13), 1), (([79], 0), 2)] := by decide +kernel

-- the remaining entries of `display_order`: the fixed isotope C[13] sorts before O and after the head
example : (restOf tinyComp.ents).keys = [([67], 13), ([79], 0)] := by decide +kernel

-- the theorem applies to the example
example : ∃ ents', parseFormula asciiCC tinyTable (toFormula asciiCC tinyTable tinyComp) = .ok ents' ∧
    ∀ k, ents'.get k = tinyComp.ents.get k :=
  roundtrip asciiCC (fun _ _ => ⟨rfl, rfl, rfl⟩) tinyTable (by decide +kernel) tinyComp (by decide +kernel) (by decide +kernel)

-- the hypotheses matter: the empty composition displays as "" which is not a formula, and a
-- non-positive count displays with a sign the parser rejects
example : toFormula asciiCC tinyTable ⟨.vec, [], none⟩ = [] := by decide +kernel
example : parseFormula asciiCC tinyTable [] = .err := by decide +kernel
example : parseFormula asciiCC tinyTable (toFormula asciiCC tinyTable ⟨.vec, [(([72], 0), -1)], none⟩) = .err := by
  decide +kernel

end Chem
