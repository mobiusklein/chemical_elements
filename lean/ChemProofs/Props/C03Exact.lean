import ChemProofs.Props.C03
import ChemProofs.Props.C09
import ChemProofs.Props.C09Range
/-
C03 (exactness, continued) — from the raw variants to the returned pattern.

`ExactHyp K c req order` bundles the hypotheses of `rawVariants_spec` with
`order = (resolveOrder K (toB c) req).toNat` (`order ≤ maxVariants` is not among them: it follows from
`resolve_bounds`, `ExactHyp.order_le`); `ExactHyp.of_dom` derives them from `Dom` and plain facts about the elements.

Exactness is one statement, `ExactHyp.variants_eq`: `brainVariants = ok (sortByMz (cutLoop K.cut exactRaw false))`.
Cut and sort act on the index list `0 ..= order` (`sortByMz_cutLoop_map`), which gives the index form
`variants_exact`; membership, distinctness, ratios, the mass range and (Props/C09Mz.lean) strict m/z are read
off it.  For one atom the aggregated lists are the element polynomials (`aggProb_single`, `aggMass_single`), so the
exact raw list is the list of tabulated isotopes (`exactRaw_single`).
Where the exact centre masses lie, and that the exact probabilities are positive, is Props/C09Range.lean (statements about
the specification alone); `variants_mz_in_range` reads both off the returned pattern.
-/

namespace Chem
open PowerSeries

/-- the hypotheses shared by the exactness theorems (those of `rawVariants_spec`, with the order
    resolved from the request) -/
structure ExactHyp (K : BrainConsts) (c : List (Elem × Nat)) (req : PeakReq) (order : Nat) : Prop where
  order_eq : order = (resolveOrder K (toB c) req).toNat
  dom : ∀ x ∈ c, Dom x.1
  c0 : ∀ x ∈ c, c0 x.1 K.one ≠ 0
  m0 : ∀ x ∈ c, m0 x.1 K.one ≠ 0
  mostMass : ∀ x ∈ c, x.1.isos.head?.map (·.mass) = some x.1.mostMass
  nodup : (c.map fun x => x.1.sym).Nodup
  base : baseIntensity (toB c) K.one ≠ 0

theorem ExactHyp.order_le {K : BrainConsts} {c : List (Elem × Nat)} {req : PeakReq} {order : Nat}
    (H : ExactHyp K c req order) : (order : Int) ≤ maxVariants (toB c) := by
  have hV := maxVariants_toB_nonneg c H.dom
  rw [H.order_eq, resolve_toNat K (toB c) hV req]
  exact (resolve_bounds K (toB c) hV req).2

theorem ExactHyp.variants_eq {K : BrainConsts} {c : List (Elem × Nat)} {req : PeakReq} {order : Nat}
    (H : ExactHyp K c req order) (z : Int) (carrier : Rat) :
    brainVariants K (toB c) req z carrier =
      .ok (sortByMz (cutLoop K.cut (exactRaw c K.one order z carrier) false)) := by
  have ht := resolve_toNat K (toB c) (maxVariants_toB_nonneg c H.dom) req
  rw [← H.order_eq] at ht
  obtain ⟨consts, hpop, hgood⟩ := populate_toB_good K c order H.dom (sym_inj_of_nodup H.nodup)
  rw [ht] at hpop
  unfold brainVariants
  show (populate K (toB c) (resolveOrder K (toB c) req)).bind _ = _
  rw [hpop, ← H.order_eq]
  exact variantsWith_eq K consts (toB c) order z carrier _
    (rawVariants_eq K c order z carrier consts hgood H.c0 H.m0
      (fun x hx => m0_eq_of_dom (H.dom x hx) K.one (H.mostMass x hx)) H.nodup H.order_le H.base)

theorem cutLoop_map {α} (cut : Rat) (f : α → Peak) (l : List α) (b : Bool) :
    cutLoop cut (l.map f) b = (cutLoopBy cut f l b).map f :=
  cutLoop_mapBy cut f f (fun _ => rfl) l b

/-- **exactness, index form**: `js` is duplicate-free, so different returned positions come from different `j`;
    index `0` is the monoisotopic variant -/
theorem variants_exact {K : BrainConsts} {c : List (Elem × Nat)} {req : PeakReq} {order : Nat}
    (H : ExactHyp K c req order) (z : Int) (carrier : Rat) :
    ∃ js : List Nat, js.Nodup ∧ (∀ j ∈ js, j ≤ order) ∧ 0 ∈ js ∧
      (∀ j, j ≤ order → K.cut ≤ exProb c K.one order j / exTotal c K.one order → j ∈ js) ∧
      brainVariants K (toB c) req z carrier = .ok (js.map (exactPeak c K.one order z carrier)) ∧
      (js.map (exactPeak c K.one order z carrier)).Pairwise (fun a b => a.mz ≤ b.mz) := by
  obtain ⟨js, hsp, h0, hkeep, he, hs⟩ := sortByMz_cutLoop_spec K.cut (exactPeak c K.one order z carrier)
    (List.range (order + 1))
  have hle : ∀ j ∈ js, j ≤ order := fun j hj => Nat.le_of_lt_succ (List.mem_range.1 (hsp.subset hj))
  obtain ⟨s, hperm, hsub⟩ := hsp
  exact ⟨js, hperm.nodup_iff.1 (hsub.nodup List.nodup_range), hle, h0 0 (by rw [List.range_succ_eq_map]; rfl),
    fun j hj hc => hkeep j (List.mem_range.2 (Nat.lt_succ_of_le hj)) hc, (H.variants_eq z carrier).trans (congrArg _ he), hs⟩

theorem variants_mem (K : BrainConsts) (c : List (Elem × Nat)) (req : PeakReq) (z : Int)
    (carrier : Rat) (order : Nat) (H : ExactHyp K c req order) :
    ∃ peaks, brainVariants K (toB c) req z carrier = .ok peaks ∧
      (∀ p ∈ peaks, ∃ j, j ≤ order ∧
        p.mz = chargedMz (exMass c K.one order j / exProb c K.one order j) z carrier ∧
        p.int = exProb c K.one order j / exTotal c K.one order) ∧
      (∀ j, j ≤ order → K.cut ≤ exProb c K.one order j / exTotal c K.one order →
        exactPeak c K.one order z carrier j ∈ peaks) ∧
      exactPeak c K.one order z carrier 0 ∈ peaks := by
  obtain ⟨js, _, hle, h0, hkeep, hbv, _⟩ := variants_exact H z carrier
  refine ⟨_, hbv, ?_, ?_, ?_⟩
  · intro p hp
    obtain ⟨j, hj, rfl⟩ := List.mem_map.1 hp
    exact ⟨j, hle j hj, rfl, rfl⟩
  · exact fun j hj hc => List.mem_map_of_mem (hkeep j hj hc)
  · exact List.mem_map_of_mem h0

/-- **distinctness**: when the centre masses of the variants `0 ..= order` are pairwise distinct,
    `j ↦ exactPeak j` is injective there; hence the returned list has no repeated peak and every
    returned peak comes from exactly one `j`. -/
theorem variants_distinct (K : BrainConsts) (c : List (Elem × Nat)) (req : PeakReq) (z : Int)
    (carrier : Rat) (order : Nat) (H : ExactHyp K c req order)
    (hdist : ∀ i j, i ≤ order → j ≤ order →
      exCentre c K.one order i = exCentre c K.one order j → i = j) :
    ∃ peaks, brainVariants K (toB c) req z carrier = .ok peaks ∧ peaks.Nodup ∧
      ∀ p ∈ peaks, ∃! j, j ≤ order ∧ p = exactPeak c K.one order z carrier j := by
  obtain ⟨js, hnd, hle, _, _, hbv, _⟩ := variants_exact H z carrier
  have hinj : ∀ i j, i ≤ order → j ≤ order →
      exactPeak c K.one order z carrier i = exactPeak c K.one order z carrier j → i = j := by
    intro i j hi hj h
    exact hdist i j hi hj ((chargedMz_inj z carrier).1 (congrArg Peak.mz h))
  refine ⟨_, hbv, ?_, ?_⟩
  · rw [List.nodup_map_iff_inj_on hnd]
    exact fun i hi j hj h => hinj i j (hle i hi) (hle j hj) h
  · intro p hp
    obtain ⟨j, hj, rfl⟩ := List.mem_map.1 hp
    refine ⟨j, ⟨hle j hj, rfl⟩, ?_⟩
    rintro j' ⟨hj', he⟩
    exact hinj j' j hj' (hle j hj) he.symm

theorem exactPeak_ratio (c : List (Elem × Nat)) (one : Rat) (order : Nat) (z : Int) (carrier : Rat)
    (hS : exTotal c one order ≠ 0) (i j : Nat) :
    (exactPeak c one order z carrier i).int / (exactPeak c one order z carrier j).int =
      exProb c one order i / exProb c one order j := by
  simp only [exactPeak]
  exact div_div_div_cancel_right₀ hS _ _

/-- **ratios**: any two returned peaks come from indices `i, j ≤ order` and the ratio of their
    intensities is the ratio of the exact aggregated probabilities (the normalisation cancels;
    `exTotal ≠ 0` holds e.g. when all abundances are positive, see `exTotal_pos`). -/
theorem variants_ratio {K : BrainConsts} {c : List (Elem × Nat)} {req : PeakReq} {order : Nat}
    (H : ExactHyp K c req order) (z : Int) (carrier : Rat) (hS : exTotal c K.one order ≠ 0) :
    ∃ peaks, brainVariants K (toB c) req z carrier = .ok peaks ∧
      ∀ p ∈ peaks, ∀ q ∈ peaks, ∃ i j, i ≤ order ∧ j ≤ order ∧
        p = exactPeak c K.one order z carrier i ∧ q = exactPeak c K.one order z carrier j ∧
        p.int / q.int = exProb c K.one order i / exProb c K.one order j := by
  obtain ⟨js, _, hle, _, _, hbv, _⟩ := variants_exact H z carrier
  refine ⟨_, hbv, ?_⟩
  intro p hp q hq
  obtain ⟨i, hi, rfl⟩ := List.mem_map.1 hp
  obtain ⟨j, hj, rfl⟩ := List.mem_map.1 hq
  exact ⟨i, j, hle i hi, hle j hj, rfl, rfl, exactPeak_ratio c K.one order z carrier hS i j⟩

theorem polyAdd_nil_right (p : Spec.Poly) : Spec.polyAdd p [] = p := by
  cases p <;> rfl

theorem polyMul_one_right (deg : Nat) (p : Spec.Poly) : Spec.polyMul deg p [1] = p.take (deg + 1) := by
  induction p generalizing deg with
  | nil => rfl
  | cons a p ih =>
    simp only [Spec.polyMul, Spec.polyScale, List.map_cons, List.map_nil, Spec.polyAdd, ih,
      mul_one, add_zero, List.take_succ_cons, List.take_take]
    congr 1
    rw [Nat.min_eq_left (Nat.le_succ deg)]

theorem polyMul_one_left (deg : Nat) (q : Spec.Poly) (hq : q ≠ []) :
    Spec.polyMul deg [1] q = q.take (deg + 1) := by
  cases q with
  | nil => exact absurd rfl hq
  | cons b q =>
    simp only [Spec.polyMul, Spec.polyScale, List.map_cons, Spec.polyAdd, polyAdd_nil_right, one_mul,
      add_zero]
    congr 2
    simp

theorem aggProb_single_take (e : Elem) (one : Rat) (deg : Nat) :
    Spec.aggProb [(e, 1)] one deg = (Spec.elemPoly e one false).take (deg + 1) := by
  have hne : (Spec.elemPoly e one false).take (deg + 1) ≠ [] := by
    cases h : Spec.elemPoly e one false with
    | nil => exact absurd h (elemPoly_ne_nil e one false)
    | cons a t => exact List.cons_ne_nil _ _
  simp only [Spec.aggProb, List.foldl_cons, List.foldl_nil, Spec.polyPow, polyMul_one_right]
  rw [polyMul_one_left _ _ hne, List.take_take, Nat.min_self]

theorem aggMass_single_take (e : Elem) (one : Rat) (deg : Nat) :
    Spec.aggMass [(e, 1)] one deg = (Spec.elemPoly e one true).take (deg + 1) := by
  -- the definition evaluates to its one summand
  show List.map (((1 : Nat) : Rat) * ·) (Spec.polyMul deg (Spec.polyMul deg (Spec.elemPoly e one true) [1]) [1]) = _
  simp only [polyMul_one_right, List.take_take, Nat.min_self, Nat.cast_one, one_mul, List.map_id']

theorem aggProb_single (e : Elem) (one : Rat) (deg : Nat)
    (hdeg : (Spec.elemPoly e one false).length ≤ deg + 1) :
    Spec.aggProb [(e, 1)] one deg = Spec.elemPoly e one false := by
  rw [aggProb_single_take, List.take_of_length_le hdeg]

theorem aggMass_single (e : Elem) (one : Rat) (deg : Nat)
    (hdeg : (Spec.elemPoly e one true).length ≤ deg + 1) :
    Spec.aggMass [(e, 1)] one deg = Spec.elemPoly e one true := by
  rw [aggMass_single_take, List.take_of_length_le hdeg]

/-- `Dom` element, `order = e.isos.length - 1`: the aggregated probabilities of one atom are the
    tabulated abundances -/
theorem aggProb_single_dom {e : Elem} (h : Dom e) (one : Rat) :
    Spec.aggProb [(e, 1)] one (e.isos.length - 1) = Spec.elemPoly e one false ∧
      Spec.elemPoly e one false = e.isos.map fun i => (i.abund : Rat) / one := by
  refine ⟨aggProb_single _ _ _ (by rw [elemPoly_length_of_dom h, Nat.sub_add_cancel h.length_pos]), ?_⟩
  rw [elemPoly_of_dom h]
  exact List.map_congr_left fun i _ => one_mul _

/-- … and the aggregated weighted masses are mass · abundance of the tabulated isotopes -/
theorem aggMass_single_dom {e : Elem} (h : Dom e) (one : Rat) :
    Spec.aggMass [(e, 1)] one (e.isos.length - 1) = Spec.elemPoly e one true ∧
      Spec.elemPoly e one true = e.isos.map fun i => (i.mass : Rat) / one * ((i.abund : Rat) / one) := by
  exact ⟨aggMass_single _ _ _ (by rw [elemPoly_length_of_dom h, Nat.sub_add_cancel h.length_pos]),
    elemPoly_of_dom h one true⟩

/-- the peak of one tabulated isotope: its mass, and its abundance normalised over the element -/
def isoPeak (e : Elem) (one : Rat) (z : Int) (carrier : Rat) (i : Iso) : Peak :=
  { mz := chargedMz ((i.mass : Rat) / one) z carrier,
    int := (i.abund : Rat) / (e.isos.map fun k => (k.abund : Rat)).sum }

theorem range_map_getD (l : List Rat) : (List.range l.length).map (fun j => l.getD j 0) = l :=
  (eq_range_map_of_getD rfl fun _ _ => rfl).symm

theorem exactRaw_single (e : Elem) (one : Rat) (z : Int) (carrier : Rat) (hdom : Dom e)
    (hone : one ≠ 0) (hab : ∀ i ∈ e.isos, i.abund ≠ 0) :
    exactRaw [(e, 1)] one (e.isos.length - 1) z carrier = e.isos.map (isoPeak e one z carrier) := by
  have hpos := hdom.length_pos
  have hlen : e.isos.length - 1 + 1 = e.isos.length := by omega
  have hP := (aggProb_single_dom hdom one).1.trans (aggProb_single_dom hdom one).2
  have hM := (aggMass_single_dom hdom one).1.trans (aggMass_single_dom hdom one).2
  have hT : exTotal [(e, 1)] one (e.isos.length - 1) =
      (e.isos.map fun k => (k.abund : Rat)).sum / one := by
    unfold exTotal exProb
    rw [hP, hlen]
    have := range_map_getD (e.isos.map fun i => (i.abund : Rat) / one)
    rw [List.length_map] at this
    rw [this, ← sum_map_div, List.map_map]
    rfl
  apply List.ext_getElem
  · simp [exactRaw, hlen]
  · intro j h1 h2
    have hj : j < e.isos.length := by simpa using h2
    have hne : ((e.isos[j]).abund : Rat) / one ≠ 0 :=
      div_ne_zero (Int.cast_ne_zero.mpr (hab _ (List.getElem_mem hj))) hone
    simp only [exactRaw, List.getElem_map, List.getElem_range, exactPeak, isoPeak, exCentre, hT]
    simp only [exProb, exMass, hP, hM]
    rw [List.getD_eq_getElem _ _ (by rwa [List.length_map]), List.getD_eq_getElem _ _ (by rwa [List.length_map])]
    simp only [List.getElem_map]
    rw [mul_div_assoc, div_self hne, mul_one, div_div_div_cancel_right₀ hone]

theorem ExactHyp.of_dom (K : BrainConsts) (c : List (Elem × Nat)) (req : PeakReq)
    (hone : K.one ≠ 0) (hdom : ∀ x ∈ c, Dom x.1)
    (hab : ∀ x ∈ c, ∀ i ∈ x.1.isos, i.abund ≠ 0)
    (hmm : ∀ x ∈ c, x.1.isos.head?.map (·.mass) = some x.1.mostMass)
    (hm : ∀ x ∈ c, x.1.mostMass ≠ 0)
    (hnodup : (c.map fun x => x.1.sym).Nodup) :
    ExactHyp K c req (resolveOrder K (toB c) req).toNat :=
  { order_eq := rfl
    dom := hdom
    c0 := fun x hx => c0_ne_zero_of_dom (hdom x hx) hone (hab x hx)
    m0 := fun x hx => m0_ne_zero_of_dom (hdom x hx) hone (hab x hx) (hmm x hx) (hm x hx)
    mostMass := hmm
    nodup := hnodup
    base := baseIntensity_ne_zero c hone hab }

theorem resolveOrder_single (K : BrainConsts) (e : Elem) (hdom : Dom e) :
    (resolveOrder K (toB [(e, 1)]) (.fixed e.isos.length)).toNat = e.isos.length - 1 := by
  have hV := spanVariants_eq [(e, 1)] fun x hx => List.mem_singleton.1 hx ▸ hdom
  have hs : spanVariants [(e, 1)] = e.isos.length - 1 := Nat.mul_one _
  rw [resolveOrder_eq, wanted, ← hV, hs, ← Nat.cast_pred hdom.length_pos, max_eq_left (Int.natCast_nonneg _),
    min_self, Int.toNat_natCast]

/-- **single atom**: for one atom of a `Dom` element with non-zero abundances, asking for as many
    peaks as there are tabulated isotopes returns the sorted cut of the isotope list itself (`isoPeak`) -/
theorem single_atom (K : BrainConsts) (e : Elem) (z : Int) (carrier : Rat) (hdom : Dom e)
    (hone : K.one ≠ 0) (hab : ∀ i ∈ e.isos, i.abund ≠ 0)
    (hmm : e.isos.head?.map (·.mass) = some e.mostMass) (hm : e.mostMass ≠ 0) :
    brainVariants K (toB [(e, 1)]) (.fixed e.isos.length) z carrier =
      .ok (sortByMz (cutLoop K.cut (e.isos.map (isoPeak e K.one z carrier)) false)) := by
  have H := ExactHyp.of_dom K [(e, 1)] (.fixed e.isos.length) hone
    (fun x hx => List.mem_singleton.1 hx ▸ hdom) (fun x hx => List.mem_singleton.1 hx ▸ hab)
    (fun x hx => List.mem_singleton.1 hx ▸ hmm) (fun x hx => List.mem_singleton.1 hx ▸ hm)
    (List.nodup_singleton _)
  rw [resolveOrder_single K e hdom] at H
  rw [H.variants_eq z carrier, exactRaw_single e K.one z carrier hdom hone hab]

/-- … if moreover the isotope masses increase (weakly) along the list, no sorting happens, and if every isotope's share
    reaches the cut, the result IS the isotope list -/
theorem single_atom_all (K : BrainConsts) (e : Elem) (z : Int) (carrier : Rat) (hdom : Dom e)
    (hone : 0 < K.one) (hab : ∀ i ∈ e.isos, i.abund ≠ 0)
    (hmm : e.isos.head?.map (·.mass) = some e.mostMass) (hm : e.mostMass ≠ 0)
    (hinc : e.isos.Pairwise (fun a b => a.mass ≤ b.mass))
    (hcut : ∀ i ∈ e.isos, K.cut ≤ (i.abund : Rat) / (e.isos.map fun k => (k.abund : Rat)).sum) :
    brainVariants K (toB [(e, 1)]) (.fixed e.isos.length) z carrier =
      .ok (e.isos.map (isoPeak e K.one z carrier)) := by
  rw [single_atom K e z carrier hdom (ne_of_gt hone) hab hmm hm, sortByMz_cutLoop_of_sorted, cutLoop_eq_self]
  · exact List.forall_mem_map.2 hcut
  · rw [List.pairwise_map]
    refine hinc.imp fun hle => (chargedMz_le_iff z carrier).mpr ?_
    exact div_le_div_of_nonneg_right (Rat.intCast_le_intCast.2 hle) (le_of_lt hone)

open C03Series

/-- **C09, range of the returned pattern**: for a composition over `Dom` elements with positive
    abundances and isotope masses in increasing order, every peak `brainVariants` returns has a
    positive intensity and an m/z between the charged monoisotopic mass `Σ nₑ·lightestₑ` and the
    charged mass `Σ nₑ·heaviestₑ` of the heaviest isotopologue. -/
theorem variants_mz_in_range {K : BrainConsts} {c : List (Elem × Nat)} {req : PeakReq} {order : Nat}
    (H : ExactHyp K c req order) (z : Int) (carrier : Rat) (hone : 0 < K.one)
    (hab : ∀ x ∈ c, ∀ i ∈ x.1.isos, 0 < i.abund)
    (hinc : ∀ x ∈ c, x.1.isos.Pairwise (fun a b => a.mass ≤ b.mass)) :
    ∃ peaks, brainVariants K (toB c) req z carrier = .ok peaks ∧
      ∀ p ∈ peaks, 0 < p.int ∧
        chargedMz (monoMassOf (toB c) K.one) z carrier ≤ p.mz ∧
        p.mz ≤ chargedMz (massBound (fun e => (heaviest e : Rat) / K.one) c) z carrier := by
  obtain ⟨js, _, hle, _, _, hbv, _⟩ := variants_exact H z carrier
  have ho := H.order_le
  refine ⟨_, hbv, ?_⟩
  intro p hp
  obtain ⟨j, hj, rfl⟩ := List.mem_map.1 hp
  have hjo := hle j hj
  have hpos := exProb_pos c hone H.dom hab order j hjo ((Int.ofNat_le.2 hjo).trans ho)
  have hr := exCentre_in_range_sorted c (le_of_lt hone) (fun x hx i hi => Int.le_of_lt (hab x hx i hi)) hinc
    order j hjo hpos
  rw [massBound_lightest c K.one H.mostMass] at hr
  exact ⟨div_pos hpos (exTotal_pos c hone H.dom hab order), (chargedMz_le_iff z carrier).mpr hr.1,
    (chargedMz_le_iff z carrier).mpr hr.2⟩

theorem variants_ratio_pos (K : BrainConsts) (c : List (Elem × Nat)) (req : PeakReq) (z : Int)
    (carrier : Rat) (order : Nat) (H : ExactHyp K c req order) (hone : 0 < K.one)
    (hab : ∀ x ∈ c, ∀ i ∈ x.1.isos, 0 < i.abund) :
    ∃ peaks, brainVariants K (toB c) req z carrier = .ok peaks ∧
      ∀ p ∈ peaks, ∀ q ∈ peaks, ∃ i j, i ≤ order ∧ j ≤ order ∧
        p = exactPeak c K.one order z carrier i ∧ q = exactPeak c K.one order z carrier j ∧
        p.int / q.int = exProb c K.one order i / exProb c K.one order j :=
  variants_ratio H z carrier (ne_of_gt (exTotal_pos c hone H.dom hab order))

/-! non-vacuity (the hand-made elements `exH`, `exQ` and the composition H₃Q₂ of Props/C03) -/

namespace C03ExactEx

def exK5 : BrainConsts := { exK with cut := 1 / 20 }

theorem exAbundPos : ∀ x ∈ exComp, ∀ i ∈ x.1.isos, 0 < i.abund := by
  intro x hx
  rcases exComp_mem x hx with rfl | rfl <;> decide

/-- the hypotheses of all the exactness theorems hold for H₃Q₂, any request, either set of constants -/
theorem exHyp (K : BrainConsts) (hK : K.one = 10) (req : PeakReq) :
    ExactHyp K exComp req (resolveOrder K (toB exComp) req).toNat := by
  apply ExactHyp.of_dom
  · rw [hK]
    norm_num
  · exact exComp_dom
  · exact fun x hx i hi => (exAbundPos x hx i hi).ne'
  · intro x hx
    rcases exComp_mem x hx with rfl | rfl <;> rfl
  · intro x hx
    rcases exComp_mem x hx with rfl | rfl <;> decide
  · decide

theorem exMassInc : ∀ x ∈ exComp, x.1.isos.Pairwise (fun a b => a.mass ≤ b.mass) := by
  intro x hx
  rcases exComp_mem x hx with rfl | rfl <;> decide

example : (resolveOrder exK (toB exComp) (.fixed 8)).toNat = 7 := by decide +kernel
example : maxVariants (toB exComp) = 7 := by decide +kernel

example (z : Int) (carrier : Rat) :
    ∃ js : List Nat, js.Nodup ∧ (∀ j ∈ js, j ≤ 7) ∧ 0 ∈ js ∧
      (∀ j, j ≤ 7 → exK5.cut ≤ exProb exComp 10 7 j / exTotal exComp 10 7 → j ∈ js) ∧
      brainVariants exK5 (toB exComp) (.fixed 8) z carrier = .ok (js.map (exactPeak exComp 10 7 z carrier)) ∧
      (js.map (exactPeak exComp 10 7 z carrier)).Pairwise (fun a b => a.mz ≤ b.mz) :=
  variants_exact (exHyp exK5 rfl (.fixed 8)) z carrier

/-- … and what it says, evaluated by the kernel: with the 5 % cut exactly the variants 0..3 survive
    (charge 1, carrier 1) -/
example :
    (match brainVariants exK5 (toB exComp) (.fixed 8) 1 1 with
      | .ok peaks => some peaks
      | _ => none) = some ([0, 1, 2, 3].map (exactPeak exComp 10 7 1 1)) := by decide +kernel

/-- without a cut all 8 exact peaks are returned, in order -/
example :
    (match brainVariants exK (toB exComp) (.fixed 8) 0 0 with
      | .ok peaks => some peaks
      | _ => none) = some (exactRaw exComp 10 7 0 0) := by decide +kernel

/-- the exact distribution of H₃Q₂ = coefficients of (0.9 + 0.1x)³ (0.6 + 0.3x + 0.1x²)² -/
example : (List.range 8).map (exProb exComp 10 7) =
    [6561 / 25000, 2187 / 6250, 25029 / 100000, 2097 / 20000, 279 / 10000, 213 / 50000,
      33 / 100000, 1 / 100000] := by decide +kernel

/-- the centre masses are pairwise distinct (hypothesis of `variants_distinct`), and lie between the
    monoisotopic mass 3·1 + 2·5 = 13 and the heaviest isotopologue 3·2 + 2·6.9 = 19.8 -/
example : (List.range 8).map (exCentre exComp 10 7) =
    [13, 563 / 40, 7752 / 515, 18667 / 1165, 2628 / 155, 1270 / 71, 1036 / 55, 99 / 5] := by
  decide +kernel

theorem exCentre_distinct : ∀ i j, i ≤ 7 → j ≤ 7 →
    exCentre exComp exK.one 7 i = exCentre exComp exK.one 7 j → i = j := by
  have h : ∀ i : Fin 8, ∀ j : Fin 8,
      exCentre exComp exK.one 7 i.1 = exCentre exComp exK.one 7 j.1 → i = j := by decide +kernel
  intro i j hi hj he
  exact congrArg Fin.val (h ⟨i, by omega⟩ ⟨j, by omega⟩ he)

example (z : Int) (carrier : Rat) :
    ∃ peaks, brainVariants exK (toB exComp) (.fixed 8) z carrier = .ok peaks ∧ peaks.Nodup ∧
      ∀ p ∈ peaks, ∃! j, j ≤ 7 ∧ p = exactPeak exComp exK.one 7 z carrier j :=
  variants_distinct exK exComp (.fixed 8) z carrier 7 (exHyp exK rfl (.fixed 8)) exCentre_distinct

example (req : PeakReq) (z : Int) (carrier : Rat) :
    ∃ peaks, brainVariants exK (toB exComp) req z carrier = .ok peaks ∧
      ∀ p ∈ peaks, 0 < p.int ∧ chargedMz 13 z carrier ≤ p.mz ∧ p.mz ≤ chargedMz (99 / 5) z carrier := by
  have h := variants_mz_in_range (exHyp exK rfl req) z carrier (by decide +kernel)
    exAbundPos exMassInc
  have h1 : monoMassOf (toB exComp) exK.one = 13 := by decide +kernel
  have h2 : massBound (fun e => (heaviest e : Rat) / exK.one) exComp = 99 / 5 := by decide +kernel
  rw [h1, h2] at h
  exact h

example (req : PeakReq) (z : Int) (carrier : Rat) :=
  variants_ratio_pos exK exComp req z carrier _ (exHyp exK rfl req) (by decide +kernel) exAbundPos

example (z : Int) (carrier : Rat) :
    brainVariants exK (toB [(exQ, 1)]) (.fixed 3) z carrier =
      .ok (exQ.isos.map (isoPeak exQ exK.one z carrier)) :=
  single_atom_all exK exQ z carrier exQ_dom (by decide +kernel) (by decide) rfl (by decide) (by decide)
    (by decide +kernel)

example : exQ.isos.map (isoPeak exQ exK.one 0 0) =
    [⟨5, 3 / 5⟩, ⟨61 / 10, 3 / 10⟩, ⟨69 / 10, 1 / 10⟩] := by decide +kernel

example : Spec.aggProb [(exQ, 1)] 10 2 = [6 / 10, 3 / 10, 1 / 10] := by decide +kernel
example : Spec.aggProb [(exQ, 1)] 10 2 = Spec.elemPoly exQ 10 false :=
  aggProb_single exQ 10 2 (by decide +kernel)
example : Spec.aggMass [(exQ, 1)] 10 2 = Spec.elemPoly exQ 10 true :=
  aggMass_single exQ 10 2 (by decide +kernel)

end C03ExactEx

end Chem
