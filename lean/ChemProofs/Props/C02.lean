import ChemProofs.Lemmas.Comp
/-
C02 — reported mass always equals the mass of the current contents.

`massOf m ents = Σ (k, n) ∈ ents, n * m k` is literally the property's right-hand side ("the sum
over current entries of count times the mass of the fixed isotope, or of the most abundant
isotope when none is fixed"; `m` is that mass function).  The theorems hold for every mass
function, every history of operations of any length, all four forms of a composition and every
interleaving of cache-populating calls.
-/
namespace Chem

/-- cache invariant of one composition -/
def Comp.Inv (m : Key → Int) (c : Comp) : Prop :=
  c.cache = none ∨ c.cache = some (c.ents.massOf m)

def Regs.Inv (m : Key → Int) (rs : Regs) : Prop := ∀ c ∈ rs, c.Inv m

theorem Comp.inv_of_cache_none {m : Key → Int} {c : Comp} (h : c.cache = none) : c.Inv m := Or.inl h

theorem mass_correct (m : Key → Int) (c : Comp) (h : c.Inv m) :
    c.mass m = c.ents.massOf m ∧ (c.fmass m).2 = c.ents.massOf m ∧ c.calcMass m = c.ents.massOf m := by
  rcases h with h | h <;> simp [Comp.mass, Comp.fmass, Comp.calcMass, h]

theorem fmass_inv (m : Key → Int) (c : Comp) (h : c.Inv m) : (c.fmass m).1.Inv m := by
  rcases h with h | h <;> right <;> simp [Comp.fmass, h]

/-- every mutator clears the cache, `fmass` fills it with the mass, and `±=` with nothing to add changes nothing -/
theorem Comp.Built.inv {m : Key → Int} {K : Key → Prop} {rs : Regs} (h : rs.Inv m) {c : Comp}
    (hc : Comp.Built m K rs c) : c.Inv m := by
  induction hc with
  | reg hc => exact h _ hc
  | fmass _ ih => exact fmass_inv m _ ih
  | addFrom s _ _ ih _ => exact List.foldlRecOn _ _ ih fun _ _ _ _ => Or.inl rfl
  | _ => exact Or.inl rfl

theorem step_inv (cc : CharClass) (T : Table) (m : Key → Int) (rs : Regs) (op : Op) (h : rs.Inv m) :
    (stepM cc T m rs op).regs.Inv m :=
  fun c hc => Comp.Built.inv h (step_built cc T m rs op (fun _ => True) (fun _ _ => trivial) c hc)

theorem run_inv (cc : CharClass) (T : Table) (m : Key → Int) (rs : Regs) (ops : List Op) (h : rs.Inv m) :
    (runM cc T m rs ops).Inv m :=
  List.foldlRecOn ops _ h fun rs h op _ => step_inv cc T m rs op h

/-- **C02**: after any finite history of public operations, on every register, `mass()`,
    `fmass()` and `calc_mass()` all return the mass of the current contents — a cached mass is
    never returned after the contents changed. -/
theorem run_mass (cc : CharClass) (T : Table) (m : Key → Int) (n : Nat) (ops : List Op) :
    ∀ c ∈ runM cc T m (List.replicate n (Comp.empty .vec)) ops,
      c.mass m = c.ents.massOf m ∧ (c.fmass m).2 = c.ents.massOf m ∧ c.calcMass m = c.ents.massOf m :=
  fun c hc => mass_correct m c (run_inv cc T m _ ops (List.forall_mem_replicate.2 (.inr (Or.inl rfl))) c hc)

/-- the same from any starting register file that satisfies the invariant (e.g. parsed formulas) -/
theorem run_mass_from (cc : CharClass) (T : Table) (m : Key → Int) (rs : Regs) (ops : List Op)
    (h : rs.Inv m) : ∀ c ∈ runM cc T m rs ops, c.mass m = c.ents.massOf m :=
  fun c hc => (mass_correct m c (run_inv cc T m rs ops h c hc)).1

/-- mass is additive over `+` / `-` (every operator form is `addFrom`) -/
theorem mass_add (m : Key → Int) (a b : Comp) (sign : Int) :
    (a.addNew b sign).ents.massOf m = a.ents.massOf m + sign * b.ents.massOf m := by
  rw [Comp.addNew, Comp.addFrom_ents, Ents.massOf_addFrom]

/-- mass is linear over `*` (and unary minus) -/
theorem mass_mul (m : Key → Int) (a : Comp) (n : Int) :
    (a.mulNew n).ents.massOf m = n * a.ents.massOf m :=
  Ents.massOf_mapCounts_mul m a.ents n

/-- non-vacuity: a register with a *populated* cache satisfies the invariant, and the history
    `set; fmass; *= 2` really goes through a populated cache -/
example : (⟨.map, [((([72] : Sym), 0), 2)], some 14⟩ : Comp).Inv (fun _ => 7) := by
  right
  simp [Ents.massOf]

example :
    let m : Key → Int := fun _ => 7
    let rs := runM ⟨fun _ => false, fun _ => false, fun _ => false⟩ [] m [Comp.empty .vec]
                [.set 0 ([72], 0) 2, .fmass 0]
    (rs.map (·.cache)) = [some 14] := by decide +kernel

/-- the witness of the repaired defect D4, on the *pre-repair* `_mul_by` (which left the cache
    alone): the stale value 14 is reported for contents weighing 28. -/
def legacyMulBy (c : Comp) (n : Int) : Comp := { c with ents := c.ents.mapCounts (n * ·) }
example :
    let m : Key → Int := fun _ => 7
    let c : Comp := (⟨.vec, [((([72] : Sym), 0), 2)], none⟩ : Comp)
    ((legacyMulBy (c.fmass m).1 2).mass m, (legacyMulBy (c.fmass m).1 2).ents.massOf m) = (14, 28) := by
  decide +kernel

end Chem
