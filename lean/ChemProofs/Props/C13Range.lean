import ChemProofs.Props.C13Float
/-
The *range* side of the floating-point layer.  `FlModel.OK` is the standard model "no overflow, no underflow"; the bounds of
`Props/C13Float.lean` therefore speak about `normalize` only where every intermediate value stays inside the range of a
double.  This file says where that is: for at most 64 positive intensities whose exact total is at least 2^-1022 (the
smallest normal double) the rounded reciprocal `rnd (1 / total)` is at most 2^1023 and every normalised intensity is at most
2 — all below the largest finite double.  (Not treated: overflow of the total itself, and underflow of a product
`xᵢ · r` for an entry more than 2^1022 times smaller than the total.)  Below that line the model does not apply: for the single peak of
intensity 2^-1051 the reciprocal the code asks for exceeds 2^1024, which no finite double represents.  That is finding D30
(DESIGN §8): the check files a disagreement under D30 exactly when the exact total of the peaks to keep is below 2^-1022.
-/
namespace Chem

theorem two_pow_pos (n : Nat) : (0 : ℚ) < 2 ^ n := pow_pos (by norm_num) n

theorem recip_in_range {F : FlModel} (hF : F.OK) (hu : F.u = 1 / 2 ^ 53) {l : List ℚ} (hne : l ≠ [])
    (hl : ∀ x ∈ l, 0 < x) (hn : l.length ≤ 64) (hS : 1 / 2 ^ 1022 ≤ l.sum) :
    F.rnd (1 / flSum F l) ≤ 2 ^ 1023 := by
  have hu1 := f64_u_lt_one hu
  have hS0 := (flSum_pos hF hne hl hu1).1
  -- 65 roundings: at most 64 in the total, the reciprocal
  have h2 := pow_div_pow_le_two hF.1 hu1 (p := 1) (k := 65) (Nat.add_le_add_left hn 1)
    (by rw [hu]; norm_num)
  rw [pow_one] at h2
  calc F.rnd (1 / flSum F l) ≤ (1 + F.u) / (1 - F.u) ^ l.length * (1 / l.sum) :=
        (recip_flSum_within hF hne hl hu1).2
    _ ≤ 2 * 2 ^ 1022 := mul_le_mul h2 ((one_div_le hS0 (two_pow_pos _)).2 hS)
        (one_div_nonneg.2 hS0.le) zero_le_two
    _ = 2 ^ 1023 := (pow_succ' 2 1022).symm

theorem flNormalize_entry_le_two {F : FlModel} (hF : F.OK) (hu : F.u = 1 / 2 ^ 53) {l : List ℚ} (hne : l ≠ [])
    (hl : ∀ x ∈ l, 0 < x) (hn : l.length ≤ 64) {i : Nat} {x y : ℚ}
    (hx : l[i]? = some x) (hy : (flNormalize F l)[i]? = some y) : 0 ≤ y ∧ y ≤ 2 := by
  have hu1 := f64_u_lt_one hu
  have hS0 := (flSum_pos hF hne hl hu1).1
  have hm : x ∈ l := List.mem_of_getElem? hx
  have hfrac0 : 0 ≤ x / l.sum := div_nonneg (hl x hm).le hS0.le
  have hfrac1 : x / l.sum ≤ 1 := (div_le_one hS0).2 (List.single_le_sum (fun y hy => (hl y hy).le) x hm)
  have hb : Within _ _ (x / l.sum) y := flNormalize_entry hF hne hl hu1 hx hy
  -- 66 roundings: those of the reciprocal and the product
  have h2 := pow_div_pow_le_two hF.1 hu1 (p := 2) (k := 66) (Nat.add_le_add_left hn 2)
    (by rw [hu]; norm_num)
  exact ⟨hb.nonneg (div_nonneg (sq_nonneg _) (pow_nonneg (one_add_u_nonneg hF) _)) hfrac0,
    hb.2.trans ((mul_le_mul h2 hfrac1 hfrac0 zero_le_two).trans_eq (mul_one 2))⟩

/-- D30, the other side of the line: for the single peak of intensity 2^-1051 the reciprocal that `normalize` computes is
    beyond 2^1024 in every model of rounding with `u ≤ 1/2` — no finite double represents it -/
theorem recip_overflows {F : FlModel} (hF : F.OK) (hu : F.u ≤ 1 / 2) :
    (2 : ℚ) ^ 1024 < 1 / flSum F [1 / 2 ^ 1051] := by
  have hx : (0 : ℚ) < 1 / 2 ^ 1051 := one_div_pos.2 (two_pow_pos _)
  rw [flSum_singleton, lt_one_div (two_pow_pos _) (rnd_pos hF (hu.trans_lt (by norm_num)) hx)]
  -- `rnd x ≤ (1 + u) x`, and `(1 + u) / 2^1051 < 1 / 2^1024` with the fractions cleared
  refine (rnd_bounds hF hx.le).2.trans_lt ?_
  rw [mul_one_div, div_lt_div_iff₀ (two_pow_pos _) (two_pow_pos _), one_mul]
  calc (1 + F.u) * 2 ^ 1024 ≤ 2 * 2 ^ 1024 :=
        mul_le_mul_of_nonneg_right ((add_le_add_right hu 1).trans (by norm_num)) (two_pow_pos _).le
    _ = 2 ^ 1025 := (pow_succ' 2 1024).symm
    _ < 2 ^ 1051 := pow_lt_pow_right₀ one_lt_two (by norm_num)

/-- non-vacuity: the premises of the three theorems are satisfiable together — exact arithmetic with `u = 2^-53` is a model of
    rounding, and `[1/2, 1/4]` is a list of at most 64 positive intensities whose total is at least 2^-1022 -/
example : (⟨id, 1 / 2 ^ 53⟩ : FlModel).OK ∧ (⟨id, 1 / 2 ^ 53⟩ : FlModel).u = 1 / 2 ^ 53 ∧
    ([1 / 2, 1 / 4] : List ℚ) ≠ [] ∧ (∀ x ∈ ([1 / 2, 1 / 4] : List ℚ), 0 < x) ∧ ([1 / 2, 1 / 4] : List ℚ).length ≤ 64 :=
  ⟨FlModel.OK_exact (by decide +kernel), by decide +kernel⟩

end Chem
