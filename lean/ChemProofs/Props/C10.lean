import ChemProofs.Lemmas.CutSort
import ChemProofs.Model.Poisson
import ChemProofs.Model.Convolution
import ChemProofs.Model.Brain
/-
C10 — charge only rescales m/z; charge 0 means neutral masses.

Proved for all three generators, with no side conditions (every `z : Int` of either sign, every carrier,
threshold, composition, cache): the result at charge `z` is the result at charge 0 with each peak's `mz`
replaced by `chargedMz mz z c` (`rescale z c`), same peaks, same order, same intensities, and the same
failure behaviour (`none` / `err` / `panic` at one charge iff at every charge).  Each stage after the charge
step commutes with the relabelling: `normalize`, `ignoreBelow` and the cut loop look at intensities only, and the
sort by m/z commutes because the conversion is strictly increasing.
-/
namespace Chem

/-- `neutral_mass` inverts `mass_charge_ratio` for every non-zero charge of either sign -/
theorem neutral_inverts (m c : Rat) (z : Int) (hz : z ≠ 0) (x : Rat) (h : mzOf m z c = some x) :
    neutralOf x z c = m := by
  obtain ⟨hmz, hsome⟩ := chargedMz_ne m c z hz
  obtain rfl : chargedMz m z c = x := Option.some.inj (hsome.symm.trans h)
  rw [hmz, neutralOf, div_mul_cancel₀ _ (natAbs_cast_pos z hz).ne', add_sub_cancel_right]

/-- `mass_charge_ratio` is defined exactly for the non-zero charges -/
theorem mzOf_isSome (m c : Rat) (z : Int) : (mzOf m z c).isSome = true ↔ z ≠ 0 := by
  unfold mzOf
  split
  · next h => exact ⟨nofun, fun hz => absurd h hz⟩
  · next h => exact ⟨fun _ => h, fun _ => rfl⟩

/-- the conversion is strictly increasing in the neutral mass at every charge, so sorting by m/z and rescaling
    commute (the coarse generator sorts after converting) -/
theorem chargedMz_strictMono (c : Rat) (z : Int) (m m' : Rat) (h : m < m') :
    chargedMz m z c < chargedMz m' z c :=
  (chargedMz_lt_iff z c).mpr h

/-- **Poisson generator**: same number of peaks and the same intensities at every charge, and each
    m/z is the corresponding neutral mass converted for the charge; at charge 0 the m/z values are
    the neutral masses `mass + i·shift` themselves. -/
theorem poisson_charge (mass : Rat) (n : Nat) (z : Int) (lf ns pr : Rat) :
    (poisson mass n z lf ns pr).length = (poisson mass n 0 lf ns pr).length ∧
    (poisson mass n z lf ns pr).map (·.int) = (poisson mass n 0 lf ns pr).map (·.int) ∧
    (poisson mass n z lf ns pr).map (·.mz) = (poisson mass n 0 lf ns pr).map (fun p => chargedMz p.mz z pr) := by
  unfold poisson
  split
  · exact ⟨rfl, rfl, rfl⟩
  · simp only [List.length_map, List.map_map, Function.comp_def, chargedMz_zero, and_self]

/-- non-vacuity -/
example : mzOf 1000 2 (1007276 / 1000000) = some ((1000 + 2 * (1007276 / 1000000)) / 2) := by
  decide +kernel
example : (poisson 1200 4 0 1800 1 1).map (·.mz) = [1200, 1201, 1202, 1203] := by decide +kernel

/-- the part of `isotopic_convolution` after the charge step -/
theorem convTail_mapMz (f : Rat → Rat) (t : Rat) (P Q : Pattern) (h : Q.peaks = P.peaks.map (mapMz f)) :
    (match Q.normalize with
      | none => (none : Option (List Peak))
      | some q => (Pattern.ignoreBelow q t).map Pattern.peaks) =
    (match P.normalize with
      | none => (none : Option (List Peak))
      | some q => (Pattern.ignoreBelow q t).map Pattern.peaks).map (List.map (mapMz f)) := by
  have hn := normalize_mapMz f P Q h
  cases hP : P.normalize with
  | none =>
    rw [hP] at hn
    rw [Option.map_eq_none_iff.mp hn]
    rfl
  | some p =>
    rw [hP] at hn
    obtain ⟨q, hQ, hq⟩ := Option.map_eq_some_iff.mp hn
    rw [hQ]
    simp only [Option.map_map]
    exact ignoreBelow_mapMz f t p q hq

/-- **convolution generator**: the result at charge `z` is the result at charge 0 (neutral masses)
    with every `mz` converted for the charge and nothing else changed; `none` (a zero total) at one
    charge iff at every charge -/
theorem conv_charge_peaks (entries : List (Dist × Int)) (z : Int) (c t : Rat) :
    isotopicConvolution entries z c t = (isotopicConvolution entries 0 c t).map (List.map (rescale z c)) := by
  unfold isotopicConvolution
  refine convTail_mapMz (fun m => chargedMz m z c) t _ _ ?_
  simp [List.map_map, Function.comp_def, mapMz, chargedMz_zero]

theorem conv_charge (entries : List (Dist × Int)) (z : Int) (c t : Rat) :
    (isotopicConvolution entries z c t).map (·.map (·.int)) =
      (isotopicConvolution entries 0 c t).map (·.map (·.int)) := by
  rw [conv_charge_peaks entries z c t]
  simp [Option.map_map, Function.comp_def, List.map_map]

theorem conv_charge_mz (entries : List (Dist × Int)) (z : Int) (c t : Rat) :
    (isotopicConvolution entries z c t).map (·.map (·.mz)) =
      (isotopicConvolution entries 0 c t).map (·.map (fun p => chargedMz p.mz z c)) := by
  rw [conv_charge_peaks entries z c t]
  simp [Option.map_map, Function.comp_def, List.map_map]

theorem conv_charge_length (entries : List (Dist × Int)) (z : Int) (c t : Rat) :
    (isotopicConvolution entries z c t).map (·.length) = (isotopicConvolution entries 0 c t).map (·.length) := by
  rw [conv_charge_peaks entries z c t]
  simp [Option.map_map, Function.comp_def]

def Res.mapOk {α β} (f : α → β) (r : Res α) : Res β := r.bind fun a => .ok (f a)

@[simp]
theorem Res.mapOk_ok {α β} (f : α → β) (a : α) : (Res.ok a).mapOk f = .ok (f a) := rfl
@[simp]
theorem Res.mapOk_err {α β} (f : α → β) : (Res.err : Res α).mapOk f = .err := rfl
@[simp]
theorem Res.mapOk_panic {α β} (f : α → β) : (Res.panic : Res α).mapOk f = .panic := rfl

theorem Res.mapOk_id {α} (r : Res α) : r.mapOk id = r := by cases r <;> rfl

theorem Res.mapOk_bind {α β γ} (r : Res α) (k : α → Res β) (f : β → γ) :
    (r.bind k).mapOk f = r.bind fun a => (k a).mapOk f := by cases r <;> rfl

/-- the variants before the cut and the sort: same intensities, `mz` converted for the charge -/
theorem raw_charge (K : BrainConsts) (consts : IsoConstants) (comp : BComp) (order : Nat) (z : Int) (c : Rat) :
    rawVariants K consts comp order z c =
      (rawVariants K consts comp order 0 c).mapOk (List.map (rescale z c)) := by
  unfold rawVariants
  simp only [Res.mapOk_bind]
  refine congrArg _ (funext fun prob => congrArg _ (funext fun cm => ?_))
  simp [List.map_map, Function.comp_def, rescale, mapMz, chargedMz_zero]

/-- the cut loop looks at intensities only -/
theorem cutLoop_map (g : Peak → Peak) (hg : ∀ p, (g p).int = p.int) (cut : Rat) (l : List Peak) (b : Bool) :
    cutLoop cut (l.map g) b = (cutLoop cut l b).map g := by
  rw [cutLoop_mapBy cut id g hg, cutLoopBy_id]

/-- sorting by m/z commutes with a strictly increasing change of the m/z values: both `<` tests of
    every insertion agree -/
theorem sortByMz_map_strictMono (f : Rat → Rat) (hf : ∀ a b, a < b → f a < f b) (l : List Peak) :
    sortByMz (l.map (mapMz f)) = (sortByMz l).map (mapMz f) := by
  rw [sortByMz_eq, sortByMz_eq]
  exact stableSort_map_of_respects (mapMz f)
    (fun a b => decide_eq_decide.2 (StrictMono.lt_iff_lt fun _ _ h => hf _ _ h)) l

/-- **BRAIN, populated constants**: the variants at charge `z` are the variants at charge 0 with
    every `mz` converted for the charge (same peaks kept by the cut, same order, same intensities);
    a panic at one charge iff at every charge -/
theorem brain_charge (K : BrainConsts) (consts : IsoConstants) (comp : BComp) (order : Nat) (z : Int) (c : Rat) :
    variantsWith K consts comp order z c =
      (variantsWith K consts comp order 0 c).mapOk (List.map (rescale z c)) := by
  unfold variantsWith
  rw [raw_charge K consts comp order z c]
  cases rawVariants K consts comp order 0 c with
  | ok peaks =>
    simp only [Res.mapOk_ok, Res.bind]
    rw [cutLoop_map _ (rescale_int z c)]
    exact congrArg Res.ok (sortByMz_map_strictMono _ (chargedMz_strictMono c z) _)
  | err => rfl
  | panic => rfl

/-- **BRAIN, stateless entry point** -/
theorem brainVariants_charge (K : BrainConsts) (comp : BComp) (req : PeakReq) (z : Int) (c : Rat) :
    brainVariants K comp req z c = (brainVariants K comp req 0 c).mapOk (List.map (rescale z c)) := by
  unfold brainVariants
  simp only [Res.mapOk_bind]
  exact congrArg _ (funext fun consts => brain_charge K consts comp _ z c)

/-- **BRAIN, reusable generator**: the peaks are rescaled, the new cache does not depend on the charge -/
theorem generatorCall_charge (K : BrainConsts) (cache : Cache) (comp : BComp) (req : PeakReq) (z : Int) (c : Rat) :
    generatorCall K cache comp req z c =
      (generatorCall K cache comp req 0 c).mapOk (fun r => (r.1.map (rescale z c), r.2)) := by
  unfold generatorCall
  simp only [Res.mapOk_bind]
  refine congrArg _ (funext fun ⟨consts, cache'⟩ => ?_)
  simp only
  rw [brain_charge K consts comp _ z c]
  cases variantsWith K consts comp (resolveOrder K comp req).toNat 0 c <;> rfl

theorem brainVariants_charge_int (K : BrainConsts) (comp : BComp) (req : PeakReq) (z : Int) (c : Rat) :
    (brainVariants K comp req z c).mapOk (List.map (·.int)) =
      (brainVariants K comp req 0 c).mapOk (List.map (·.int)) := by
  rw [brainVariants_charge K comp req z c]
  cases brainVariants K comp req 0 c <;> simp [List.map_map, Function.comp_def]

theorem brainVariants_charge_mz (K : BrainConsts) (comp : BComp) (req : PeakReq) (z : Int) (c : Rat) :
    (brainVariants K comp req z c).mapOk (List.map (·.mz)) =
      (brainVariants K comp req 0 c).mapOk (List.map (fun p => chargedMz p.mz z c)) := by
  rw [brainVariants_charge K comp req z c]
  cases brainVariants K comp req 0 c <;> simp [List.map_map, Function.comp_def]

theorem brain_charge_zero (K : BrainConsts) (comp : BComp) (req : PeakReq) (c : Rat) :
    (brainVariants K comp req 0 c).mapOk (List.map (rescale 0 c)) = brainVariants K comp req 0 c := by
  rw [rescale_zero, List.map_id_fun, Res.mapOk_id]

namespace C10Demo

/-- a toy element: isotopes of mass 1 (abundance 3/4) and mass 2 (abundance 1/4), in units of 1/4 -/
def X : Elem :=
  { tkey := [88], sym := [88],
    isos := [{ key := 1, mass := 4, abund := 3, neutrons := 1, shift := 0 },
             { key := 2, mass := 8, abund := 1, neutrons := 2, shift := 1 }],
    mostIso := 1, mostMass := 4, minShift := 0, maxShift := 1, elemNum := 1 }

def K : BrainConsts :=
  { one := 4, lambdaFactor := 1800, maxIter := 255, guessCap := 300, guessFraction := 9999/10000,
    cut := 1/10000000000 }

def D : Dist := [(1, 3/4), (2, 1/4)]

-- BRAIN on X₂: neutral masses at charge 0, `(m + z)/|z|` at charges 2 and -2 (carrier mass 1),
-- the same three intensities every time
example : brainVariants K [(X, 2)] (.fixed 3) 0 1 = .ok [⟨2, 9/16⟩, ⟨3, 3/8⟩, ⟨4, 1/16⟩] := by decide +kernel
example : brainVariants K [(X, 2)] (.fixed 3) 2 1 = .ok [⟨2, 9/16⟩, ⟨5/2, 3/8⟩, ⟨3, 1/16⟩] := by decide +kernel
example : brainVariants K [(X, 2)] (.fixed 3) (-2) 1 = .ok [⟨0, 9/16⟩, ⟨1/2, 3/8⟩, ⟨1, 1/16⟩] := by
  decide +kernel
example : (generatorCall K [] [(X, 2)] (.fixed 3) (-2) 1).mapOk (·.1) =
    .ok [⟨0, 9/16⟩, ⟨1/2, 3/8⟩, ⟨1, 1/16⟩] := by decide +kernel
-- the right-hand side of `brainVariants_charge` evaluates to the same list
example : (brainVariants K [(X, 2)] (.fixed 3) 0 1).mapOk (List.map (rescale (-2) 1)) =
    .ok [⟨0, 9/16⟩, ⟨1/2, 3/8⟩, ⟨1, 1/16⟩] := by decide +kernel

-- convolution on D² with threshold 1/10 (the (4, 1/16) arrangement is pruned); the kernel cannot run the merge sort
-- (well-founded recursion), so the sort is taken from `sortByMass_of_sorted`
theorem demo_conv : convolveEntries (1/10) [(D, 2)] 0 [] = [(2, 9/16), (3, 3/16), (3, 3/16)] := by
  decide +kernel
theorem demo_sort : sortByMass [(2, 9/16), (3, 3/16), (3, 3/16)] = [(2, 9/16), (3, 3/16), (3, 3/16)] :=
  sortByMass_of_sorted (by decide +kernel)

theorem demo_isoconv (z : Int) (c : Rat) : isotopicConvolution [(D, 2)] z c (1/10) =
    some [⟨chargedMz 2 z c, 3/5⟩, ⟨chargedMz 3 z c, 1/5⟩, ⟨chargedMz 3 z c, 1/5⟩] := by
  have h0 : isotopicConvolution [(D, 2)] 0 c (1/10) = some [⟨2, 3/5⟩, ⟨3, 1/5⟩, ⟨3, 1/5⟩] := by
    unfold isotopicConvolution
    rw [demo_conv, demo_sort]
    simp only [chargedMz_zero]
    decide +kernel
  rw [conv_charge_peaks, h0]
  rfl

example : isotopicConvolution [(D, 2)] 0 1 (1/10) = some [⟨2, 3/5⟩, ⟨3, 1/5⟩, ⟨3, 1/5⟩] := by
  rw [demo_isoconv]
  decide +kernel
example : isotopicConvolution [(D, 2)] 2 1 (1/10) = some [⟨2, 3/5⟩, ⟨5/2, 1/5⟩, ⟨5/2, 1/5⟩] := by
  rw [demo_isoconv]
  decide +kernel
example : isotopicConvolution [(D, 2)] (-2) 1 (1/10) = some [⟨0, 3/5⟩, ⟨1/2, 1/5⟩, ⟨1/2, 1/5⟩] := by
  rw [demo_isoconv]
  decide +kernel

-- the sort really needs strict monotonicity: a decreasing relabelling does not commute
example : sortByMz ([⟨1, 0⟩, ⟨2, 0⟩].map (mapMz (fun m => -m))) ≠
    (sortByMz [⟨1, 0⟩, ⟨2, 0⟩]).map (mapMz (fun m => -m)) := by decide +kernel

end C10Demo

end Chem
