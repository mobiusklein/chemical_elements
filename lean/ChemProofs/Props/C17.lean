import ChemProofs.Model.CBinding
import ChemProofs.Props.C05
import ChemProofs.Props.C16
/-
C17 — the C binding mirrors the Rust API, reports errors by code, never aborts (on the model),
and keeps its handle table balanced.

`cstep` is analysed once (`cstep_effect`): every call inside the contract returns a value, and what it does to
the handle table has one of four shapes (`CEffect`).  The statements about all calls are read off that.
-/
namespace Chem

/-- the effect of one call on the handle table and what it reports -/
inductive CEffect (st : CState) (op : COp) : CState → COut → Prop
  /-- reads and reported errors: state untouched, no handle handed out -/
  | same (o : COut) (ho : o.handle = none) : CEffect st op st o
  /-- `new`, successful `parse`, `copy`: one fresh handle -/
  | alloc (c : Comp) : CEffect st op (st.alloc c).1 { rc := 0, handle := some (st.alloc c).2 }
  /-- the mutators: one live entry replaced -/
  | put (h : Nat) (c : Comp) : CEffect st op (st.put h c) { rc := 0 }
  /-- `free` of a live handle -/
  | free (h : Nat) (c : Comp) (hop : op = .free h) (hf : st.find h = some c) :
      CEffect st op { st with live := st.live.filter (fun x => !(x.1 == h)) } { rc := 0 }

theorem cstep_effect (cc : CharClass) (T : Table) (m : Key → Int) (st : CState) (op : COp)
    (r : Res (CState × COut)) (h : cstep cc T m st op = some r) :
    ∃ st' o, r = .ok (st', o) ∧ CEffect st op st' o := by
  cases op <;> dsimp only [cstep] at h
  case new => cases h; exact ⟨_, _, rfl, .alloc _⟩
  case parse s =>
    have hp := parse_no_panic cc T s
    cases hps : parseFormula cc T s <;> simp only [hps] at h hp <;> cases h
    · exact ⟨_, _, rfl, .alloc _⟩
    · exact ⟨_, _, rfl, .same _ rfl⟩
    · exact absurd rfl hp
  case copy hh =>
    obtain ⟨c, _, rfl⟩ := Option.map_eq_some_iff.1 h
    exact ⟨_, _, rfl, .alloc _⟩
  case get hh s | mass hh =>
    obtain ⟨c, _, rfl⟩ := Option.map_eq_some_iff.1 h
    exact ⟨_, _, rfl, .same _ rfl⟩
  case set hh s n | inc hh s n =>
    obtain ⟨c, _, rfl⟩ := Option.map_eq_some_iff.1 h
    have hp := spec_no_panic T s
    cases hps : parseSpec T s <;> simp only [hps] at hp ⊢
    · exact ⟨_, _, rfl, .put _ _⟩
    · exact ⟨_, _, rfl, .same _ rfl⟩
    · exact absurd rfl hp
  case add a b | sub a b =>
    split at h
    · cases h
    · split at h <;> cases h
      exact ⟨_, _, rfl, .put _ _⟩
  case scale hh n =>
    obtain ⟨c, _, rfl⟩ := Option.map_eq_some_iff.1 h
    exact ⟨_, _, rfl, .put _ _⟩
  case free hh =>
    obtain ⟨c, hf, rfl⟩ := Option.map_eq_some_iff.1 h
    exact ⟨_, _, rfl, .free hh c rfl hf⟩

/-- **no call aborts**: for every call within the contract the outcome is a value, never `.panic`
    (lifted from `parse_no_panic` (C05) and `spec_no_panic` (C16); reads are total) -/
theorem ffi_no_abort (cc : CharClass) (T : Table) (m : Key → Int) (st : CState) (op : COp)
    (r : Res (CState × COut)) (h : cstep cc T m st op = some r) : r ≠ .panic := by
  obtain ⟨_, _, rfl, _⟩ := cstep_effect cc T m st op r h
  intro h; cases h

/-- **errors by code**: a non-zero return code leaves the handle table untouched and the
    out-pointer null -/
theorem ffi_error_leaves_state (cc : CharClass) (T : Table) (m : Key → Int) (st st' : CState) (op : COp) (o : COut)
    (h : cstep cc T m st op = some (.ok (st', o))) (hrc : o.rc ≠ 0) : st' = st ∧ o.handle = none := by
  obtain ⟨_, _, heq, he⟩ := cstep_effect cc T m st op _ h
  cases heq
  cases he with
  | same o ho => exact ⟨rfl, ho⟩
  | alloc | put | free => exact absurd rfl hrc

/-- **parse_formula yields a handle exactly when the Rust parser accepts the text**, and the new
    handle holds the parsed composition -/
theorem ffi_parse_handle (cc : CharClass) (T : Table) (m : Key → Int) (st st' : CState) (s : List Nat) (o : COut)
    (h : cstep cc T m st (.parse s) = some (.ok (st', o))) :
    (o.handle.isSome ↔ ∃ ents, parseFormula cc T s = .ok ents) ∧
    (∀ ents, parseFormula cc T s = .ok ents → o.rc = 0 ∧ o.handle = some st.next ∧
        st'.live = st.live ++ [(st.next, ⟨.evec, ents, none⟩)]) := by
  dsimp only [cstep] at h
  cases hps : parseFormula cc T s <;> simp only [hps] at h
  · cases h
    simp [CState.alloc]
  · cases h
    simp
  · cases h

/-- mass / get on a handle are the Rust composition's -/
theorem ffi_reads (cc : CharClass) (T : Table) (m : Key → Int) (st : CState) (hh : Nat) (c : Comp) (s : List Nat)
    (hf : st.find hh = some c) :
    cstep cc T m st (.mass hh) = some (.ok (st, { rc := 0, value := some (c.mass m) })) ∧
    cstep cc T m st (.get hh s) = some (.ok (st, { rc := 0, value := some (c.getStr cc T s) })) := by
  dsimp only [cstep]
  rw [hf]
  exact ⟨rfl, rfl⟩

theorem CEffect.length {st st' : CState} {op : COp} {o : COut} (he : CEffect st op st' o)
    (hop : ∀ hh, op ≠ .free hh) :
    st'.live.length = st.live.length + (if o.handle.isSome then 1 else 0) := by
  cases he with
  | same o ho => simp [ho]
  | alloc c => simp [CState.alloc]
  | put h c => simp [CState.put]
  | free hh c hop' hf => exact absurd hop' (hop hh)

/-- **handle bookkeeping**: the number of live handles changes by +1 on a successful creation and not at all on
    any other call than `free`.  Nothing is said of `free` here (second disjunct): that it removes exactly one
    handle needs the invariant of the handle table, `free_balance` in `Props/C17Handles.lean`. -/
theorem handles_balance (cc : CharClass) (T : Table) (m : Key → Int) (st st' : CState) (op : COp) (o : COut)
    (h : cstep cc T m st op = some (.ok (st', o))) :
    st'.live.length + (match op with | .free _ => 1 | _ => 0) = st.live.length + (if o.handle.isSome then 1 else 0) ∨
    (∃ hh, op = .free hh) := by
  obtain ⟨_, _, heq, he⟩ := cstep_effect cc T m st op _ h
  cases heq
  by_cases hfree : ∃ hh, op = .free hh
  · exact Or.inr hfree
  · have hlen := he.length fun hh e => hfree ⟨hh, e⟩
    cases op
    case free hh => exact absurd ⟨hh, rfl⟩ hfree
    all_goals exact Or.inl hlen

end Chem
