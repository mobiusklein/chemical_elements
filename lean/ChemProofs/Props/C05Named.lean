import ChemProofs.Props.C05Rejects
/-
C05 — the remaining items of the property's list, each for the FIRST term of the text: an unknown symbol, an
isotope the element does not have, a count above `i32::MAX` (no hypothesis on the table), and a blank anywhere.

The first three speak of a text that BEGINS with given pieces, so they are runs of the parser on pieces `arun`
(`Lemmas/Pend.lean`) over that beginning: its characters build the pieces (`arun_symbol`, `arun_bracket`,
`arun_digits`), and the parser can only succeed from pieces whose symbol is a table key and whose bracket holds an
isotope of that element, whatever the rest of the text appends to them (`arun_readable`).
-/
namespace Chem
open Spec

section
variable {cc : CharClass} {T : Table} {sub : List Nat → Res Ents}

/-- the bracket `[ds]` is empty or holds a number that makes a key with `e` -/
def bracketOK (e : Elem) (ds : List Nat) : Prop :=
  ds ≠ [] → ∃ v k, parseU16 ds = some v ∧ mkKey e v = .ok k

/-- what is complete of the pending element term can be flushed: the symbol is a table key, and the closed bracket
    holds nothing or an isotope the element has -/
def Pend.Readable (T : Table) : Pend → Prop
  | .isoOpen w _ => ∃ e, T.find? w = some e
  | .isoDone w ds => ∃ e, T.find? w = some e ∧ bracketOK e ds
  | .count w iso _ => ∃ e, T.find? w = some e ∧ ∀ ds, iso = some ds → bracketOK e ds
  | _ => True

theorem Pend.readable_of_close {pd : Pend} {acc acc' : Ents} (h : pd.close T sub acc = .ok acc') : pd.Readable T := by
  cases pd with
  | isoOpen w ds => cases h
  | isoDone w ds =>
    simp only [Pend.close, Res.bind_eq_ok, Res.ofOpt_eq_ok] at h
    obtain ⟨e, hf, v, hv, k, hk, -⟩ := h
    exact ⟨e, hf, fun _ => ⟨v, k, hv, hk⟩⟩
  | count w iso ds =>
    simp only [Pend.close, Res.bind_eq_ok, Res.ofOpt_eq_ok] at h
    obtain ⟨n, -, v, hv, e, hf, k, hk, -⟩ := h
    refine ⟨e, hf, fun d hd hne => ?_⟩
    rw [hd, Pend.isoNum, if_neg hne, Res.ofOpt_eq_ok] at hv
    exact ⟨v, k, hv, hk⟩
  | _ => trivial

/-- the characters that go on with an element term add to its bracket and its count, and leave what is complete -/
theorem Pend.readable_of_push {pd : Pend} {c : Nat} : ∀ pd', pd.push cc c = some pd' → pd'.Readable T → pd.Readable T := by
  cases pd with
  | isoOpen w ds =>
    exact some_ite_elim (fun _ => some_elim fun ⟨e, hf, _⟩ => ⟨e, hf⟩) fun _ =>
      some_ite_elim (fun _ => none_elim) fun _ => some_elim id
  | isoDone w ds => exact some_ite_elim (fun _ => some_elim fun ⟨e, hf, hb⟩ => ⟨e, hf, hb ds rfl⟩) fun _ => none_elim
  | count w iso ds => exact some_ite_elim (fun _ => none_elim) fun _ => some_elim id
  | _ => exact fun _ _ _ => trivial

theorem arun_readable {ents : Ents} {rest : List Nat} {pd : Pend} {acc : Ents} (h : arun cc T sub rest pd acc = .ok ents) :
    pd.Readable T := by
  induction rest generalizing pd with
  | nil => exact Pend.readable_of_close h
  | cons c rest ih =>
    cases hp : pd.push cc c with
    | some pd' =>
      rw [arun_push hp] at h
      exact Pend.readable_of_push pd' hp (ih h)
    | none =>
      rw [arun_flush hp] at h
      obtain ⟨acc', hc, -⟩ := Res.bind_eq_ok.1 h
      exact Pend.readable_of_close hc

theorem arun_flush_unknown {w : List Nat} (hw : T.find? w = none) {c : Nat} (hp : (Pend.sym w).push cc c = none)
    (rest : List Nat) (acc : Ents) : arun cc T sub (c :: rest) (.sym w) acc = .err := by
  rw [arun_flush hp, Pend.close, hw]
  rfl

end

/-- a formula that begins with a symbol (an ASCII upper-case letter followed by lower-case letters) which is not in
    the table is rejected.  "The symbol ends there": the text ends, or goes on with an upper-case letter, a digit, `[`
    or `(`.  In particular (`rest = []`, or `rest` a count / an isotope bracket) every single term with an unknown symbol. -/
theorem reject_unknown_symbol (cc : CharClass) (hcc : cc.AsciiOK) (T : Table) (U : Nat) (lows rest : List Nat)
    (hU : isAsciiUpper U = true) (hl : ∀ c ∈ lows, isAsciiLower c = true)
    (hrest : ∀ c, rest.head? = some c → isAsciiUpper c = true ∨ isAsciiDigit c = true ∨ c = 91 ∨ c = 40)
    (hfind : T.find? (U :: lows) = none) :
    parseFormula cc T ((U :: lows) ++ rest) = .err := by
  refine (parse_ok_or_err cc T _).resolve_left fun ⟨ents, h⟩ => ?_
  rw [parseFormula_eq_arun, arun_symbol hU hl] at h
  cases rest with
  | nil =>
    rw [arun, Pend.close, hfind] at h
    cases h
  | cons c r =>
    rcases hrest c rfl with hu | hd | rfl | rfl
    · rw [arun_flush_unknown hfind (Pend.push_sym_starts hcc (Or.inl (isUpperStart_of_upper hu)) _)] at h
      cases h
    · rw [arun_push (Pend.push_digit hcc hd)] at h
      obtain ⟨e, hf, -⟩ := arun_readable h
      cases hfind.symm.trans hf
    · rw [arun_push (Pend.push_lbr hcc)] at h
      obtain ⟨e, hf⟩ := arun_readable h
      cases hfind.symm.trans hf
    · rw [arun_flush_unknown hfind (Pend.push_sym_starts hcc (Or.inr rfl) _)] at h
      cases h

/-- a formula that begins with `Sym[digits]`, where the digits denote a number that is neither 0 nor an isotope of
    the element `Sym` (or do not fit `u16`), is rejected with an error value — whatever follows the bracket -/
theorem reject_unknown_isotope (cc : CharClass) (hcc : cc.AsciiOK) (T : Table) (U : Nat) (lows ids rest : List Nat)
    (hU : isAsciiUpper U = true) (hl : ∀ c ∈ lows, isAsciiLower c = true)
    (hids : ∀ c ∈ ids, isAsciiDigit c = true) (hne : ids ≠ [])
    (hbad : ∀ e v, T.find? (U :: lows) = some e → parseU16 ids = some v → v ≠ 0 ∧ e.iso? v = none) :
    parseFormula cc T ((U :: lows) ++ [91] ++ ids ++ [93] ++ rest) = .err := by
  refine (parse_ok_or_err cc T _).resolve_left fun ⟨ents, h⟩ => ?_
  rw [parseFormula_eq_arun, List.append_assoc, List.append_assoc, List.append_assoc, arun_symbol hU hl,
    List.singleton_append, List.singleton_append, arun_bracket hcc hids] at h
  obtain ⟨e, hf, hb⟩ := arun_readable h
  obtain ⟨v, k, hv, hk⟩ := hb hne
  obtain ⟨h0, hn⟩ := hbad e v hf hv
  simp [mkKey, h0, hn] at hk

/-- the same as the property words it: `Sym[n]…` where the element has no isotope `n` (and `n ≠ 0`) is rejected -/
theorem reject_unknown_isotope_nat (cc : CharClass) (hcc : cc.AsciiOK) (T : Table) (U : Nat) (lows rest : List Nat)
    (e : Elem) (n : Nat) (hU : isAsciiUpper U = true) (hl : ∀ c ∈ lows, isAsciiLower c = true)
    (hf : T.find? (U :: lows) = some e) (hn : n ≠ 0) (hiso : e.iso? n = none) :
    parseFormula cc T ((U :: lows) ++ [91] ++ natDigits n ++ [93] ++ rest) = .err := by
  apply reject_unknown_isotope cc hcc T U lows (natDigits n) rest hU hl (natDigits_all_digit n) (natDigits_ne_nil n)
  intro e' v hf' hv
  rw [hf] at hf'
  cases hf'
  rw [parseU16_of_digitsVal (digitsVal_natDigits n)] at hv
  split at hv
  · cases hv
    exact ⟨hn, hiso⟩
  · cases hv

/-- a formula that begins with `Sym<digits>` where the digit string (the whole run of digits: the text ends there
    or goes on with a non-numeric character) has a value above `i32::MAX = 2147483647` is rejected -/
theorem reject_oversized_count (cc : CharClass) (hcc : cc.AsciiOK) (T : Table) (U : Nat) (lows ds rest : List Nat)
    (v : Nat) (hU : isAsciiUpper U = true) (hl : ∀ c ∈ lows, isAsciiLower c = true)
    (hv : digitsVal ds = some v) (hbig : 2147483647 < v)
    (hrest : ∀ c, rest.head? = some c → cc.numeric c = false) :
    parseFormula cc T ((U :: lows) ++ ds ++ rest) = .err := by
  obtain ⟨hne, hall⟩ := digitsVal_some_all hv
  rw [parseFormula_eq_arun, List.append_assoc, arun_symbol hU hl,
    arun_digits (q := .count (U :: lows) none) (fun _ => Pend.push_digit hcc) (fun _ _ => Pend.push_digit hcc)
      (List.all_eq_true.1 hall) hne]
  generalize parseA cc T _ = sub
  have hclose : ∀ acc, (Pend.count (U :: lows) none ds).close T sub acc = .err := fun acc => by
    dsimp only [Pend.close]
    rw [parseI32_of_digitsVal hv, if_neg (Nat.not_le.2 hbig)]
    rfl
  cases rest with
  | nil => exact hclose _
  | cons c r =>
    have hp : (Pend.count (U :: lows) none ds).push cc c = none := by simp [Pend.push, hrest c rfl]
    rw [arun_flush hp, hclose]
    rfl

/-- a string containing a blank is rejected, provided no table symbol contains a blank -/
theorem reject_space (cc : CharClass) (hcc : cc.AsciiOK) (T : Table)
    (hT : T.all (fun e => !e.tkey.contains 32) = true) (s : List Nat) (hs : 32 ∈ s) :
    parseFormula cc T s = .err := by
  apply reject_foreign_char cc hcc T s 32 ?_ hs
  unfold formulaChar
  have : T.any (fun e => e.tkey.contains 32) = false := by
    rw [List.any_eq_false]
    intro e he
    have := List.all_eq_true.1 hT e he
    simpa using this
  rw [this]; rfl

/-! ### non-vacuity: the theorems apply to concrete texts over the one-element table `rejT` (`H`, isotope 1) and agree
with the evaluation of the parser -/

example : parseFormula c05cc rejT ([88, 120] ++ [50]) = .err :=            -- `Xx2`
  reject_unknown_symbol c05cc rejCC_ok rejT 88 [120] [50] (by decide) (by decide) (by decide) (by decide)
example : parseFormula c05cc rejT [88, 120, 50] = .err := by decide +kernel
example : parseFormula c05cc rejT ([72] ++ [91] ++ natDigits 2 ++ [93] ++ [50, 72]) = .err :=   -- `H[2]2H`
  reject_unknown_isotope_nat c05cc rejCC_ok rejT 72 [] [50, 72] (rejT.headD default) 2 (by decide) (by decide) (by decide)
    (by decide) (by decide)
example : parseFormula c05cc rejT [72, 91, 50, 93, 50, 72] = .err := by decide +kernel
example : parseFormula c05cc rejT [72, 91, 49, 93, 50, 72] = .ok [(([72], 1), 2), (([72], 0), 1)] := by decide +kernel  -- `H[1]2H`
example : parseFormula c05cc rejT ([72] ++ [50, 49, 52, 55, 52, 56, 51, 54, 52, 56] ++ [72]) = .err :=   -- `H2147483648H`
  reject_oversized_count c05cc rejCC_ok rejT 72 [] _ [72] 2147483648 (by decide) (by decide) (by decide) (by decide) (by decide)
example : parseFormula c05cc rejT [72, 50, 49, 52, 55, 52, 56, 51, 54, 52, 55, 72] = .ok [(([72], 0), 2147483648)] := by
  -- `H2147483647H`: the count itself fits and the text is accepted; the two `H` then add up to 2147483648 because
  -- the model counts in unbounded integers (overflow of the sum is excluded by the property, not modelled)
  decide +kernel
example : parseFormula c05cc rejT [72, 50, 32, 72] = .err :=
  reject_space c05cc rejCC_ok rejT (by decide) _ (by decide)

end Chem
