import ChemProofs.Spec.RawGrammar
import ChemProofs.Lemmas.Ents
import ChemProofs.Lemmas.Digits
import ChemProofs.Lemmas.Pend
/-
C05, converse direction — a composition is returned ONLY for a well-formed formula
(`parse_sound`), over the parser on pieces `arun` (`Lemmas/Pend.lean`).
The pieces stay of the kind the machine reads as such (`Pend.OK`), and a flush that succeeds closes a well-formed term
whose rendering is the text of the pieces and adds what it denotes (`Pend.close_sound`); so the pending pieces and the
text still to be read are the rendering of the terms `arun` goes on to flush (`arun_sound`).
The raw-tree side comes first and does not mention the machine: what a parsed number says about its digits, and `Adds`
(the flush of a term adds to the accumulator what the term denotes).
-/
namespace Chem
open Spec

theorem cntOK_of_parse {cc : CharClass} (hcc : cc.AsciiOK) {ds : List Nat} {n : Int}
    (hnum : ∀ c ∈ ds, cc.numeric c = true) (h : parseI32 ds = some n) :
    cntOK (some ds) = true ∧ cntVal (some ds) = n := by
  obtain ⟨hne, hall⟩ := parseI32_numeric hcc hnum h
  constructor
  · cases ds with
    | nil => exact absurd rfl hne
    | cons d ds => simp only [cntOK, hall, h, List.isEmpty_cons, Bool.not_false, Bool.and_self,
        Option.isSome_some]
  · simp only [cntVal, h, Option.getD_some]

theorem isoOKr_of_parse {cc : CharClass} (hcc : cc.AsciiOK) {e : Elem} {ds : List Nat} {v : Nat}
    (hnum : ∀ c ∈ ds, cc.numeric c = true) (h : parseU16 ds = some v)
    (hv : v = 0 ∨ (e.iso? v).isSome = true) :
    isoOKr e (some ds) = true ∧ isoVal (some ds) = v := by
  obtain ⟨_, hall⟩ := parseU16_numeric hcc hnum h
  constructor
  · simp only [isoOKr, hall, h, Bool.true_and, Bool.or_eq_true, beq_iff_eq]
    exact Or.inr hv
  · simp only [isoVal, h, Option.getD_some]

/-- `acc'` is `acc` with the contribution `d` added -/
structure Adds (acc : Ents) (d : Key → Int) (acc' : Ents) : Prop where
  nodup : acc'.NoDupKeys
  get : ∀ k, acc'.get k = acc.get k + d k

section
variable {T : Table} {acc : Ents}

theorem Adds.elem (hacc : acc.NoDupKeys) {sym : Sym} {e : Elem} {iso cnt : Option (List Nat)} {v : Nat} {n : Int}
    (hf : T.find? sym = some e) (hv : isoVal iso = v) (hn : cntVal cnt = n) :
    Adds acc ((RTerm.elem sym iso cnt).denote T) (acc.inc (e.sym, v) n) :=
  ⟨Ents.nodup_inc _ _ _ hacc, fun k => by rw [Ents.get_inc, RTerm.denote, hf, hv, hn]⟩

theorem Adds.group (hacc : acc.NoDupKeys) {body : RTerms} {g : Ents} (hg : Adds [] (body.denote T) g)
    {cnt : Option (List Nat)} {n : Int} (hn : cntVal cnt = n) :
    Adds acc ((RTerm.group body cnt).denote T) (acc.addFrom (g.mapCounts (n * ·)) 1) :=
  ⟨Ents.nodup_addFrom _ _ _ hacc, fun k => by
    rw [Ents.get_addFrom, Ents.sumFor_nodup _ _ (Ents.nodup_mapCounts _ _ hg.nodup), Ents.get_mapCounts_mul, hg.get,
      RTerm.denote, hn, Ents.get_nil, Int.zero_add, Int.one_mul]⟩

theorem Adds.cons {t : RTerm} {ts : RTerms} {acc' acc'' : Ents} (h1 : Adds acc (t.denote T) acc')
    (h2 : Adds acc' (ts.denote T) acc'') : Adds acc ((RTerms.cons t ts).denote T) acc'' :=
  ⟨h2.nodup, fun k => by rw [h2.get, h1.get, RTerms.denote, Int.add_assoc]⟩

end

/-- `s` is the rendering of a non-empty well-formed tree, and `acc'` is `acc` with its denotation added -/
def Closed (T : Table) (s : List Nat) (acc acc' : Ents) : Prop :=
  ∃ ts : RTerms, ts.nonEmpty = true ∧ ts.wf T = true ∧ ts.render = s ∧ Adds acc (ts.denote T) acc'

/-- the level below returns a composition only for the rendering of a well-formed tree, and it is what the tree denotes -/
def SubSound (T : Table) (sub : List Nat → Res Ents) : Prop :=
  ∀ b g, sub b = .ok g → Closed T b [] g

def Numeric (cc : CharClass) (ds : List Nat) : Prop := ∀ c ∈ ds, cc.numeric c = true

theorem Numeric.snoc {cc : CharClass} {ds : List Nat} {c : Nat} (h : Numeric cc ds) (hc : cc.numeric c = true) :
    Numeric cc (ds ++ [c]) :=
  List.forall_mem_append.2 ⟨h, List.forall_mem_singleton.2 hc⟩

/-- the pieces are what the machine reads as such: a symbol begins with an upper-case letter, the numbers are runs of
    `cc.numeric` characters -/
def Pend.OK (cc : CharClass) : Pend → Prop
  | .new | .grp _ _ | .grpDone _ => True
  | .sym w => upperHead w = true
  | .isoOpen w ds | .isoDone w ds => upperHead w = true ∧ Numeric cc ds
  | .count w iso ds => upperHead w = true ∧ (∀ d, iso = some d → Numeric cc d) ∧ Numeric cc ds
  | .grpCount _ ds => Numeric cc ds

section
variable {cc : CharClass} {T : Table} {sub : List Nat → Res Ents} {c : Nat}

theorem Pend.start_ok : ∀ pd', Pend.start c = some pd' → pd'.OK cc :=
  some_ite_elim (fun hu => some_elim (upperStart_facts hu).2.1) fun _ =>
    some_ite_elim (fun _ => some_elim trivial) fun _ => none_elim

theorem Pend.push_ok {pd : Pend} (hok : pd.OK cc) : ∀ pd', pd.push cc c = some pd' → pd'.OK cc := by
  have numeric : ∀ {x}, ¬(!cc.numeric x) = true → cc.numeric x = true := fun h => by simpa using h
  cases pd with
  | new => exact Pend.start_ok
  | sym w =>
    have hw : upperHead (w ++ [c]) = true := by cases w with | nil => cases hok | cons _ _ => exact hok
    exact some_ite_elim (fun _ => some_ite_elim (fun _ => none_elim) fun _ => some_elim hw)
      fun _ => some_ite_elim (fun hn => some_elim ⟨hok, nofun, List.forall_mem_singleton.2 hn⟩) fun _ =>
        some_ite_elim (fun _ => some_elim ⟨hok, nofun⟩) fun _ => some_ite_elim (fun _ => none_elim) fun _ => some_elim hw
  | isoOpen w ds =>
    exact some_ite_elim (fun _ => some_elim hok) fun _ =>
      some_ite_elim (fun _ => none_elim) fun hn => some_elim ⟨hok.1, hok.2.snoc (numeric hn)⟩
  | isoDone w ds =>
    exact some_ite_elim
      (fun hn => some_elim ⟨hok.1, fun d hd => Option.some.inj hd ▸ hok.2, List.forall_mem_singleton.2 hn⟩)
      fun _ => none_elim
  | count w iso ds =>
    exact some_ite_elim (fun _ => none_elim) fun hn => some_elim ⟨hok.1, hok.2.1, hok.2.2.snoc (numeric hn)⟩
  | grp b d =>
    exact some_ite_elim (fun _ => some_ite_elim (fun _ => some_elim trivial) fun _ => some_elim trivial) fun _ =>
      some_ite_elim (fun _ => some_elim trivial) fun _ => some_elim trivial
  | grpDone b => exact some_ite_elim (fun _ => none_elim) fun hn => some_elim (List.forall_mem_singleton.2 (numeric hn))
  | grpCount b ds => exact some_ite_elim (fun _ => none_elim) fun hn => some_elim (Numeric.snoc hok (numeric hn))

theorem Pend.close_sound (hcc : cc.AsciiOK) (hsub : SubSound T sub) {pd : Pend} {acc acc' : Ents}
    (hacc : acc.NoDupKeys) (hok : pd.OK cc) (h : pd.close T sub acc = .ok acc') :
    ∃ t : RTerm, t.wf T = true ∧ t.render = pd.text ∧ Adds acc (t.denote T) acc' := by
  -- a chain of `bind`s that succeeded: every link did
  cases pd <;> simp only [Pend.close, Res.bind_eq_ok, Res.ofOpt_eq_ok, Res.ok.injEq, reduceCtorEq] at h
  case sym w =>
    obtain ⟨e, hf, rfl⟩ := h
    have hu : upperHead w = true := hok
    exact ⟨.elem w none none, by simp [RTerm.wf, hf, hu, isoOKr, cntOK], by simp [RTerm.render, rIso, rOpt, Pend.text],
      .elem hacc hf rfl rfl⟩
  case isoDone w ds =>
    obtain ⟨e, hf, v, hv, k, hk, rfl⟩ := h
    obtain ⟨rfl, hiso⟩ := mkKey_ok hk
    obtain ⟨h1, h2⟩ := isoOKr_of_parse hcc hok.2 hv hiso
    exact ⟨.elem w (some ds) none, by simp [RTerm.wf, hf, hok.1, h1, cntOK], by simp [RTerm.render, rIso, rOpt, Pend.text],
      .elem hacc hf h2 rfl⟩
  case count w iso ds =>
    obtain ⟨n, hn, v, hv, e, hf, k, hk, rfl⟩ := h
    obtain ⟨rfl, hiso⟩ := mkKey_ok hk
    obtain ⟨hc1, hc2⟩ := cntOK_of_parse hcc hok.2.2 hn
    -- the bracket pending in state `Count`: none, an empty one, or digits parsed as the isotope number
    have key : isoOKr e iso = true ∧ isoVal iso = v := by
      cases iso with
      | none => cases hv; exact ⟨rfl, rfl⟩
      | some d =>
        simp only [Pend.isoNum] at hv
        split at hv
        · subst ‹d = []›; cases hv; exact ⟨rfl, rfl⟩
        · exact isoOKr_of_parse hcc (hok.2.1 d rfl) (Res.ofOpt_eq_ok.1 hv) hiso
    exact ⟨.elem w iso (some ds), by simp [RTerm.wf, hf, hok.1, key.1, hc1],
      by cases iso <;> simp [RTerm.render, rIso, rOpt, Pend.text], .elem hacc hf key.2 hc2⟩
  case grpDone b =>
    obtain ⟨g, hg, rfl⟩ := h
    obtain ⟨bt, hne, hwf, hbr, hb⟩ := hsub b g hg
    exact ⟨.group bt none, by simp [RTerm.wf, hne, hwf, cntOK], by simp [RTerm.render, rOpt, Pend.text, hbr],
      Ents.mapCounts_one g ▸ .group hacc hb (cnt := none) rfl⟩
  case grpCount b ds =>
    obtain ⟨g, hg, n, hn, rfl⟩ := h
    obtain ⟨bt, hne, hwf, hbr, hb⟩ := hsub b g hg
    obtain ⟨hc1, hc2⟩ := cntOK_of_parse hcc hok hn
    exact ⟨.group bt (some ds), by simp [RTerm.wf, hne, hwf, hc1], by simp [RTerm.render, rOpt, Pend.text, hbr],
      .group hacc hb hc2⟩

theorem arun_sound (hcc : cc.AsciiOK) (hsub : SubSound T sub) {ents : Ents} :
    ∀ (rest : List Nat) (pd : Pend) (acc : Ents), acc.NoDupKeys → pd.OK cc →
      arun cc T sub rest pd acc = .ok ents → Closed T (pd.text ++ rest) acc ents := by
  intro rest
  induction rest with
  | nil =>
    intro pd acc hacc hok h
    obtain ⟨t, hwf, hr, ha⟩ := Pend.close_sound hcc hsub hacc hok h
    exact ⟨.cons t .nil, rfl, by simp [RTerms.wf, hwf], by simp [RTerms.render, hr],
      .cons ha ⟨ha.nodup, fun k => (Int.add_zero _).symm⟩⟩
  | cons c rest ih =>
    intro pd acc hacc hok h
    cases hp : pd.push cc c with
    | some pd' =>
      rw [arun_push hp] at h
      have := ih pd' acc hacc (Pend.push_ok hok _ hp) h
      rwa [Pend.push_text _ hp, List.append_assoc] at this
    | none =>
      rw [arun_flush hp] at h
      obtain ⟨acc', hc, h⟩ := Res.bind_eq_ok.mp h
      obtain ⟨pd', hst, h⟩ := Res.bind_eq_ok.mp h
      rw [Res.ofOpt_eq_ok] at hst
      obtain ⟨t, hwf, hr, ha⟩ := Pend.close_sound hcc hsub hacc hok hc
      obtain ⟨ts, -, hwfs, hrs, has⟩ := ih pd' acc' ha.nodup (Pend.start_ok _ hst) h
      rw [Pend.start_text _ hst] at hrs
      exact ⟨.cons t ts, rfl, by simp [RTerms.wf, hwf, hwfs], by simp [RTerms.render, hr, hrs], .cons ha has⟩

end

theorem parseA_sound (cc : CharClass) (hcc : cc.AsciiOK) (T : Table) :
    ∀ fuel : Nat, SubSound T (parseA cc T fuel) := by
  intro fuel
  induction fuel with
  | zero => intro b g h; cases h
  | succ fuel ih =>
    intro b g h
    rw [parseA_succ] at h
    exact arun_sound hcc ih b .new [] Ents.nodup_nil trivial h

/-- **C05, converse**: a composition is returned only for a well-formed formula, and it is the
    denotation of a syntax tree that renders to the input itself -/
theorem parse_sound (cc : CharClass) (hcc : cc.AsciiOK) (T : Table) (s : List Nat) (ents : Ents)
    (h : parseFormula cc T s = .ok ents) :
    ∃ ts : Spec.RTerms, ts.nonEmpty = true ∧ ts.wf T = true ∧ ts.render = s ∧
      ents.NoDupKeys ∧ ∀ k, ents.get k = ts.denote T k := by
  obtain ⟨ts, hne, hwf, hr, ha⟩ := parseA_sound cc hcc T (s.length + 1) s ents h
  exact ⟨ts, hne, hwf, hr, ha.nodup, fun k => by rw [ha.get, Ents.get_nil, Int.zero_add]⟩

end Chem
