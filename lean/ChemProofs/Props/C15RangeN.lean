import ChemProofs.Props.C15Range
/-
C15, extended domain — the peak-count search `poisson_approximate_n_peaks_of_impl` WITH its range behaviour
(`poissonNLoopR` / `poissonNR` of `Model/PoissonRange.lean`).
-/
namespace Chem

/-- range and monotonicity in one induction: `i ≤ f tgt ≤ f tgt' ≤ maxIter` for `tgt' ≤ tgt` (`tgt' = tgt` gives the range).
    Unlike `firstBelow` this loop has no first-index characterisation to read monotonicity off (`firstBelow_spec`): it has
    two range exits, which do not look at the target -/
theorem poissonNLoopR_chain (Ω lam tgt tgt' : Rat) (h : tgt' ≤ tgt) (maxIter fuel i : Nat) (s : PoisState) (acc : Rat)
    (hi : i ≤ maxIter) :
    i ≤ poissonNLoopR Ω lam tgt maxIter fuel i s acc ∧
    poissonNLoopR Ω lam tgt maxIter fuel i s acc ≤ poissonNLoopR Ω lam tgt' maxIter fuel i s acc ∧
    poissonNLoopR Ω lam tgt' maxIter fuel i s acc ≤ maxIter := by
  induction fuel generalizing i s acc with
  | zero => exact ⟨hi, Nat.le_refl _, Nat.le_refl _⟩
  | succ f ih =>
    simp only [poissonNLoopR]
    by_cases hlt : i < maxIter
    · simp only [hlt, if_true]
      by_cases hp : Ω < (pNext lam s i).p
      · simp only [hp, if_true]
        split
        · exact ⟨hi, Nat.le_refl _, Nat.le_refl _⟩
        · exact ⟨Nat.le_refl _, Nat.le_refl _, hi⟩
      · simp only [hp, if_false]
        generalize (if Ω < (pNext lam s i).f then 0 else (pNext lam s i).cur) = c
        obtain ⟨h1, h2, h3⟩ := ih (i + 1) (pNext lam s i) (acc + c) hlt
        by_cases b' : c / (acc + c) < tgt'
        · simp only [b', lt_of_lt_of_le b' h, if_true]
          exact ⟨Nat.le_refl _, Nat.le_refl _, hi⟩
        · by_cases b : c / (acc + c) < tgt
          · simp only [b, b', if_true, if_false]
            exact ⟨Nat.le_refl _, by omega, h3⟩
          · simp only [b, b', if_false]
            exact ⟨by omega, h2, h3⟩
    · simp only [hlt, if_false]
      exact ⟨hi, Nat.le_refl _, Nat.le_refl _⟩

/-- **a count in `1 ..= maxIter`**, for every range bound, mass and threshold (overflowing terms included) -/
theorem poissonNR_range (Ω mass lf t : Rat) (maxIter : Nat) (h : 1 ≤ maxIter) :
    1 ≤ poissonNR Ω mass lf t maxIter ∧ poissonNR Ω mass lf t maxIter ≤ maxIter :=
  have := poissonNLoopR_chain Ω _ _ _ (le_refl (1 - t)) maxIter maxIter 1 ⟨1, 1⟩ 1 h
  ⟨this.1, this.2.2⟩

/-- **the count never decreases when `t` increases**, for every range bound and mass -/
theorem poissonNR_mono (Ω mass lf t t' : Rat) (maxIter : Nat) (h : t ≤ t') (hm : 1 ≤ maxIter) :
    poissonNR Ω mass lf t maxIter ≤ poissonNR Ω mass lf t' maxIter :=
  (poissonNLoopR_chain Ω _ (1 - t) (1 - t') (sub_le_sub_left h 1) maxIter maxIter 1 ⟨1, 1⟩ 1 hm).2.1

theorem poissonNLoopR_eq_stateAt (Ω lam target : Rat) (maxIter fuel m : Nat) (acc : Rat)
    (h : ∀ i, i < maxIter → (stateAt lam i).p ≤ Ω ∧ (stateAt lam i).f ≤ Ω) :
    poissonNLoopR Ω lam target maxIter fuel (m + 1) (stateAt lam m) acc =
      poissonNLoop lam target maxIter fuel (m + 1) (stateAt lam m) acc := by
  induction fuel generalizing m acc with
  | zero => rfl
  | succ f ih =>
    simp only [poissonNLoopR, poissonNLoop, pNext_stateAt]
    by_cases hlt : m + 1 < maxIter
    · have hr := h (m + 1) hlt
      have h1 : ¬ Ω < (stateAt lam (m + 1)).p := not_lt.2 hr.1
      have h2 : ¬ Ω < (stateAt lam (m + 1)).f := not_lt.2 hr.2
      simp only [hlt, h1, h2, if_true, if_false]
      rw [ih (m + 1)]
    · simp only [hlt, if_false]

/-- **the range-aware search agrees with the plain one where no loop variable leaves the range**
    (`∀ i < maxIter, λ^i ≤ Ω ∧ i! ≤ Ω`, `λ = mass / lambda_factor`) -/
theorem poissonNR_eq_poissonN (Ω mass lf t : Rat) (maxIter : Nat)
    (h : ∀ i, i < maxIter → (mass / lf) ^ i ≤ Ω ∧ (i.factorial : Rat) ≤ Ω) :
    poissonNR Ω mass lf t maxIter = poissonN mass lf t maxIter := by
  have := poissonNLoopR_eq_stateAt Ω (mass / lf) (1 - t) maxIter maxIter 0 1 h
  rwa [stateAt_zero] at this

/-- hence, in range, the minimality characterisation of C15 holds for the range-aware search -/
theorem poissonNR_minimal (Ω mass lf t : Rat) (maxIter : Nat) (hm : 1 ≤ maxIter)
    (h : ∀ i, i < maxIter → (mass / lf) ^ i ≤ Ω ∧ (i.factorial : Rat) ≤ Ω) :
    1 ≤ poissonNR Ω mass lf t maxIter ∧ poissonNR Ω mass lf t maxIter ≤ maxIter ∧
    (∀ i, 1 ≤ i → i < poissonNR Ω mass lf t maxIter → ¬ pratio (mass / lf) i < 1 - t) ∧
    (poissonNR Ω mass lf t maxIter < maxIter → pratio (mass / lf) (poissonNR Ω mass lf t maxIter) < 1 - t) := by
  rw [poissonNR_eq_poissonN Ω mass lf t maxIter h]
  exact poissonN_minimal mass lf t maxIter hm

/-- in range (`f64`, 100 iterations: `99! < f64::MAX`): the same count as the plain search -/
example : poissonNR f64Max 1800 1800 (1/2) 100 = 2 := by decide +kernel
example : poissonN 1800 1800 (1/2) 100 = 2 := by decide +kernel
/-- the early return fires: `Ω = 20`, `λ = 3`, `t = 999/1000`: `λ^3 = 27 > 20` with `3! = 6` in range, the search
    stops at 3 where the plain search goes on to 10 -/
example : poissonNR 20 5400 1800 (999/1000) 255 = 3 := by decide +kernel
example : poissonN 5400 1800 (999/1000) 255 = 10 := by decide +kernel
/-- NaN poisoning: both variables beyond `Ω = 5` at `i = 3` (`2^3 = 8`, `3! = 6`): `max_iter` is returned -/
example : poissonNR 5 3600 1800 (999/1000) 255 = 255 := by decide +kernel
/-- only the factorial beyond `Ω = 5` (`λ = 1`, `3! = 6`): the term is 0, `0 / acc < 1 - t`, the search stops at 3 -/
example : poissonNR 5 1800 1800 (9/10) 255 = 3 := by decide +kernel
example : poissonN 1800 1800 (9/10) 255 = 3 := by decide +kernel

end Chem
