import ChemProofs.Spec.Grammar
import ChemProofs.Props.C04I32
/-
The i32 layer of C01.  `Spec.Terms.denote` counts in unbounded `Int`; the Rust parser (`src/formula.rs`) counts in `i32`.
C01 quantifies over formulas "with counts such that every per-key total fits in i32".  That is enough only if no
*intermediate* value of the parser leaves i32 while the totals fit.  What the parser computes for one key `k`
(read off `src/formula.rs`):

* `Sym[iso]count`: `acc.inc(key, count)` = `acc[key] + count` (only the term's own key is touched);
* `( body )count`: `body` is parsed into a fresh composition `g` (so: every value of the body's own computation, started
  from 0), then `&g * count` (per key `g[k] * count`), then `acc += ...` (per key `acc[k] + g[k] * count`).

`values` lists these values for a key, threading the running total.  (For a group whose body does not mention `k` the list
contains `0 * count` and `acc + 0`, which the code does not compute: a superset, so the theorems are only stronger.)

Claims: every value is ≥ 0 (counts are `Nat` in the syntax tree) and ≤ the key's total in the formula with every group
multiplier 0 read as 1 (`values_bounds`, one induction over the tree; `Terms.unzero`), so it fits i32 when that total
does (`values_fit1`).  When every group multiplier is ≥ 1 (`PosMult`) the tree is its own `unzero`
(`unzero_of_posMult`) and the bound is the key's total itself (`values_le_total`, `values_fit`).  The restriction is
necessary (`zero_mult_overflows`): a multiplier 0 is accepted by the parser (`"0".parse::<i32>()` succeeds) and the body
is still parsed and summed, so a value can leave i32 while every total is 0.
-/
namespace Chem
namespace Spec

mutual
  /-- the values computed for key `k` while processing a term, the running total of `k` being `acc` before it -/
  def Term.values : Term → Key → Int → List Int
    | .elem sym iso cnt, k, acc =>
      if k = (sym, iso.getD 0) then incValues acc ((cnt.getD 1 : Nat) : Int) else []
    | .group body cnt, k, acc =>
      body.values k 0 ++ mulValues (body.denote k) ((cnt.getD 1 : Nat) : Int)
        ++ addValues acc (body.denote k * ((cnt.getD 1 : Nat) : Int))
  def Terms.values : Terms → Key → Int → List Int
    | .nil, _, _ => []
    | .cons t ts, k, acc => t.values k acc ++ ts.values k (acc + t.denote k)
end

mutual
  /-- every group multiplier is ≥ 1 (an absent multiplier is 1) -/
  def Term.PosMult : Term → Prop
    | .elem _ _ _ => True
    | .group body cnt => 1 ≤ cnt.getD 1 ∧ body.PosMult
  def Terms.PosMult : Terms → Prop
    | .nil => True
    | .cons t ts => t.PosMult ∧ ts.PosMult
end

mutual
  /-- the same tree with every group multiplier 0 replaced by 1 -/
  def Term.unzero : Term → Term
    | .elem sym iso cnt => .elem sym iso cnt
    | .group body cnt => .group body.unzero (if cnt.getD 1 = 0 then some 1 else cnt)
  def Terms.unzero : Terms → Terms
    | .nil => .nil
    | .cons t ts => .cons t.unzero ts.unzero
end

mutual
  theorem Term.denote_nonneg : ∀ (t : Term) (k : Key), 0 ≤ t.denote k
    | .elem sym iso cnt, k => by
      simp only [Term.denote]
      split
      · exact Int.natCast_nonneg _
      · exact Int.le_refl 0
    | .group body cnt, k => by
      simp only [Term.denote]
      exact Int.mul_nonneg (Int.natCast_nonneg _) (Terms.denote_nonneg body k)
  theorem Terms.denote_nonneg : ∀ (ts : Terms) (k : Key), 0 ≤ ts.denote k
    | .nil, _ => by simp [Terms.denote]
    | .cons t ts, k => by
      simp only [Terms.denote]
      exact Int.add_nonneg (Term.denote_nonneg t k) (Terms.denote_nonneg ts k)
end

theorem unzero_mult (cnt : Option Nat) :
    (if cnt.getD 1 = 0 then some 1 else cnt).getD 1 = max (cnt.getD 1) 1 := by
  split
  · rename_i h
    rw [h]
    rfl
  · rename_i h
    exact (Nat.max_eq_left (Nat.pos_of_ne_zero h)).symm

mutual
  theorem Term.unzero_posMult : ∀ t : Term, t.unzero.PosMult
    | .elem _ _ _ => trivial
    | .group body cnt => by
      simp only [Term.unzero, Term.PosMult, unzero_mult]
      exact ⟨Nat.le_max_right .., Terms.unzero_posMult body⟩
  theorem Terms.unzero_posMult : ∀ ts : Terms, ts.unzero.PosMult
    | .nil => trivial
    | .cons t ts => ⟨Term.unzero_posMult t, Terms.unzero_posMult ts⟩
end

/-- a group's contribution grows with its multiplier and with its body's -/
theorem mul_le_unzero {c m : Nat} {b u : Int} (hb : 0 ≤ b) (hbu : b ≤ u) (hcm : c ≤ m) :
    (c : Int) * b ≤ (m : Int) * u :=
  Int.mul_le_mul (Int.ofNat_le.2 hcm) hbu hb (Int.natCast_nonneg m)

mutual
  theorem Term.denote_le_unzero : ∀ (t : Term) (k : Key), t.denote k ≤ t.unzero.denote k
    | .elem _ _ _, _ => Int.le_refl _
    | .group body cnt, k => by
      simp only [Term.unzero, Term.denote, unzero_mult]
      exact mul_le_unzero (Terms.denote_nonneg body k) (Terms.denote_le_unzero body k) (Nat.le_max_left ..)
  theorem Terms.denote_le_unzero : ∀ (ts : Terms) (k : Key), ts.denote k ≤ ts.unzero.denote k
    | .nil, _ => Int.le_refl _
    | .cons t ts, k => by
      simp only [Terms.unzero, Terms.denote]
      exact Int.add_le_add (Term.denote_le_unzero t k) (Terms.denote_le_unzero ts k)
end

mutual
  theorem Term.unzero_of_posMult : ∀ t : Term, t.PosMult → t.unzero = t
    | .elem _ _ _, _ => rfl
    | .group body cnt, h => by
      simp only [Term.PosMult] at h
      have : ¬ cnt.getD 1 = 0 := by omega
      simp only [Term.unzero, Terms.unzero_of_posMult body h.2, if_neg this]
  theorem Terms.unzero_of_posMult : ∀ ts : Terms, ts.PosMult → ts.unzero = ts
    | .nil, _ => rfl
    | .cons t ts, h => by
      simp only [Terms.PosMult] at h
      simp only [Terms.unzero, Term.unzero_of_posMult t h.1, Terms.unzero_of_posMult ts h.2]
end

mutual
  theorem Term.values_bounds : ∀ (t : Term) (k : Key) (acc : Int), 0 ≤ acc →
      ∀ x ∈ t.values k acc, 0 ≤ x ∧ x ≤ acc + t.unzero.denote k
    | .elem sym iso cnt, k, acc, hacc, x, hx => by
      simp only [Term.values] at hx
      split at hx
      · rename_i hk
        cases List.mem_singleton.1 hx
        simp only [Term.unzero, Term.denote, if_pos hk]
        omega
      · cases hx
    | .group body cnt, k, acc, hacc, x, hx => by
      simp only [Term.values, List.mem_append, mulValues, addValues, incValues, List.mem_singleton] at hx
      simp only [Term.unzero, Term.denote, unzero_mult]
      have hb := Terms.denote_nonneg body k
      have hbu := Terms.denote_le_unzero body k
      -- the body's own total, and the group's contribution, are at most the contribution after `unzero`
      have hU := mul_le_unzero (c := 1) (Int.le_trans hb hbu) (Int.le_refl _) (Nat.le_max_right (cnt.getD 1) 1)
      have hD := mul_le_unzero hb hbu (Nat.le_max_left (cnt.getD 1) 1)
      have hp := Int.mul_nonneg hb (Int.natCast_nonneg (cnt.getD 1))
      rw [Int.mul_comm] at hD
      rcases hx with (hx | rfl) | rfl
      · have := Terms.values_bounds body k 0 (Int.le_refl 0) x hx
        omega
      · omega
      · omega
  theorem Terms.values_bounds : ∀ (ts : Terms) (k : Key) (acc : Int), 0 ≤ acc →
      ∀ x ∈ ts.values k acc, 0 ≤ x ∧ x ≤ acc + ts.unzero.denote k
    | .nil, _, _, _, x, hx => nomatch hx
    | .cons t ts, k, acc, hacc, x, hx => by
      simp only [Terms.values, List.mem_append] at hx
      simp only [Terms.unzero, Terms.denote]
      have h0 := Term.denote_nonneg t k
      rcases hx with hx | hx
      · have := Term.values_bounds t k acc hacc x hx
        have := Terms.denote_nonneg ts.unzero k
        omega
      · have := Terms.values_bounds ts k _ (Int.add_nonneg hacc h0) x hx
        have := Term.denote_le_unzero t k
        omega
end

theorem values_nonneg (ts : Terms) (k : Key) : ∀ x ∈ ts.values k 0, 0 ≤ x :=
  fun x hx => (Terms.values_bounds ts k 0 (Int.le_refl 0) x hx).1

theorem Term.values_le1' : ∀ (t : Term) (k : Key) (acc : Int), 0 ≤ acc →
      ∀ x ∈ t.values k acc, x ≤ acc + t.unzero.denote k :=
  fun t k acc h x hx => (Term.values_bounds t k acc h x hx).2

theorem values_le_total1 (ts : Terms) (k : Key) : ∀ x ∈ ts.values k 0, x ≤ ts.unzero.denote k := by
  intro x hx
  have := (Terms.values_bounds ts k 0 (Int.le_refl 0) x hx).2
  omega

theorem values_fit1 (ts : Terms) (k : Key) (h : InI32 (ts.unzero.denote k)) : ∀ x ∈ ts.values k 0, InI32 x := by
  intro x hx
  exact ⟨Int.le_trans (by decide) (values_nonneg ts k x hx), Int.le_trans (values_le_total1 ts k x hx) h.2⟩

theorem Term.values_le' : ∀ (t : Term) (k : Key) (acc : Int), 0 ≤ acc → t.PosMult →
      ∀ x ∈ t.values k acc, x ≤ acc + t.denote k := by
  intro t k acc h hp
  have := Term.values_le1' t k acc h
  rwa [Term.unzero_of_posMult t hp] at this

theorem values_le_total (ts : Terms) (k : Key) (hp : ts.PosMult) : ∀ x ∈ ts.values k 0, x ≤ ts.denote k := by
  have := values_le_total1 ts k
  rwa [Terms.unzero_of_posMult ts hp] at this

theorem values_fit (ts : Terms) (k : Key) (hp : ts.PosMult) (h : InI32 (ts.denote k)) :
    ∀ x ∈ ts.values k 0, InI32 x :=
  values_fit1 ts k (by rwa [Terms.unzero_of_posMult ts hp])

/-- `(C2000000000C2000000000)0`: accepted by the grammar (every literal ≤ i32::MAX), every total is 0, and the body's running
total 4000000000 is computed -/
def zeroMultTree : Terms :=
  .cons (.group (.cons (.elem [67] none (some 2000000000)) (.cons (.elem [67] none (some 2000000000)) .nil)) (some 0)) .nil

theorem zero_mult_overflows :
    (∀ k, zeroMultTree.denote k = 0) ∧ ∃ x ∈ zeroMultTree.values ([67], 0) 0, ¬ InI32 x := by
  refine ⟨?_, 4000000000, ?_, by decide⟩
  · intro k
    simp [zeroMultTree, Terms.denote, Term.denote]
  · decide +kernel

/-! ## example: `(CH3)2CO` -/

def acetone : Terms :=
  .cons (.group (.cons (.elem [67] none none) (.cons (.elem [72] none (some 3)) .nil)) (some 2))
    (.cons (.elem [67] none none) (.cons (.elem [79] none none) .nil))

example : acetone.values ([67], 0) 0 = [1, 2, 2, 3] := by decide +kernel
example : acetone.values ([72], 0) 0 = [3, 6, 6] := by decide +kernel
example : acetone.values ([79], 0) 0 = [0, 0, 1] := by decide +kernel
example : acetone.denote ([67], 0) = 3 ∧ acetone.denote ([72], 0) = 6 ∧ acetone.denote ([79], 0) = 1 := by decide +kernel
example : ∀ x ∈ acetone.values ([72], 0) 0, InI32 x :=
  values_fit acetone _ (by simp [acetone, Terms.PosMult, Term.PosMult]) (by decide)

end Spec
end Chem
