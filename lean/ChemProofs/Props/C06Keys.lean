import ChemProofs.Props.C06
import ChemProofs.Lemmas.Table
/-
C06 — from the hypothesis `RunOK` of the lock-step theorems to "the keys come from the table".

`Regs.KeysIn` (every key of every register is a table key, `Key.InT`) is an invariant of the machine, given that the typed
keys an operation carries are table keys (`Op.KeysIn`; string operations carry no obligation: they create keys only by
parsing against `T`) and that every element is stored under its own, bracket-free symbol (`Table.Own`; instance:
Inst/C06.lean).  It implies `StrOK` at every step, hence `RunOK`; the lock-step theorems are restated with these hypotheses.
-/
namespace Chem
open Ents

/-- every element is stored under its own symbol, which contains no '[' -/
def Table.Own (T : Table) : Prop := ∀ e ∈ T, e.tkey = e.sym ∧ 91 ∉ e.sym

def Key.InT (T : Table) (k : Key) : Prop :=
  91 ∉ k.1 ∧ ∃ e, T.find? k.1 = some e ∧ e.sym = k.1 ∧ (k.2 = 0 ∨ (e.iso? k.2).isSome = true)

def Ents.KeysIn (T : Table) (l : Ents) : Prop := ∀ k ∈ l.keys, Key.InT T k
def Regs.KeysIn (T : Table) (rs : Regs) : Prop := ∀ c ∈ rs, Ents.KeysIn T c.ents

def Op.KeysIn (T : Table) : Op → Prop
  | .set _ k _ | .inc _ k _ | .iset _ k _ | .iadd _ k _ => Key.InT T k
  | .fromkv _ _ _ ps => Ents.KeysIn T ps
  | _ => True

theorem parseSpec_inT (T : Table) (hT : T.Own) (s : Sym) (k : Key) (h : parseSpec T s = .ok k) : Key.InT T k := by
  -- the element found is stored under its own symbol, so looking up that symbol finds it again
  have own : ∀ x e, T.find? x = some e → 91 ∉ e.sym ∧ T.find? e.sym = some e := fun x e he => by
    obtain ⟨h1, h2⟩ := T.find?_tkey x e he
    exact ⟨(hT e h2).2, by rw [← (hT e h2).1, h1]; exact he⟩
  rcases spec_sound T s k h with ⟨e, he, rfl, _⟩ | ⟨e, sym, num, he, _, _, _, hiso, hk⟩
  · exact ⟨(own s e he).1, e, (own s e he).2, rfl, Or.inl rfl⟩
  · exact ⟨hk ▸ (own sym e he).1, e, hk ▸ (own sym e he).2, hk.symm, Or.inr hiso⟩

theorem parseSpec_of_inT (T : Table) (s : Sym) (h : Key.InT T (s, 0)) : parseSpec T s = .ok (s, 0) := by
  obtain ⟨hb, e, he, hs, _⟩ := h
  exact ((spec_accepts_only T s (s, 0)).2 ⟨e, he, by rw [hs], hb⟩).1

theorem Ents.keysIn_nil (T : Table) : Ents.KeysIn T [] := fun _ hk => nomatch hk

theorem Ents.keysIn_set (T : Table) (l : Ents) (k : Key) (v : Int) (h : Ents.KeysIn T l) (hk : Key.InT T k) :
    Ents.KeysIn T (l.set k v) :=
  fun k' hk' => ((mem_keys_set l k v k').1 hk').elim (h k') fun e => e ▸ hk

theorem Ents.keysIn_ofSets (T : Table) (l : Ents) (hl : Ents.KeysIn T l) : Ents.KeysIn T (Ents.ofSets l) :=
  List.foldlRecOn l _ (Ents.keysIn_nil T) fun acc ha e he =>
    Ents.keysIn_set T acc e.1 e.2 ha (hl e.1 (List.mem_map_of_mem he))

/-- the typed keys of an operation are table keys by hypothesis, the parsed ones because `parseSpec` consults the table -/
theorem Op.writes_inT {T : Table} (hT : T.Own) {op : Op} (ho : op.KeysIn T) {k : Key} (hk : op.Writes T k) :
    Key.InT T k := by
  cases op <;> dsimp only [Op.Writes, Op.KeysIn] at hk ho
  case fromkv => exact ho k hk
  case sset r s v | sadd r s v | incs r s v => exact parseSpec_inT T hT s k hk
  all_goals exact hk ▸ ho

theorem Comp.Built.keysIn {T : Table} {m : Key → Int} {rs : Regs} (h : Regs.KeysIn T rs) {c : Comp}
    (hc : Comp.Built m (Key.InT T) rs c) : Ents.KeysIn T c.ents := by
  induction hc with
  | reg hc => exact h _ hc
  | empty => exact Ents.keysIn_nil T
  | set k v _ hk ih => exact Ents.keysIn_set T _ k v ih (hk.elim id (ih k))
  | iterMut f _ ih => exact fun k hk => ih k (keys_mapCounts _ f ▸ hk)
  | addFrom s _ _ iha ihb =>
    exact fun k hk => ((mem_keys_addFrom _ _ s k).1 (Comp.addFrom_ents .. ▸ hk)).elim (iha k) (ihb k)
  | convert f _ ih => exact Ents.keysIn_ofSets T _ ih
  | ofPairs f ps hps => exact fun k hk => hps k ((mem_keys_ofPairs ps k).1 hk)
  | touch _ ih => exact ih
  | fmass _ ih => rwa [Comp.fmass_ents]

/-- **every operation of the machine keeps all keys inside the table**, provided the operation's own typed keys are table
    keys (string operations create keys only by parsing against `T`) -/
theorem step_keysIn (cc : CharClass) (T : Table) (hT : T.Own) (m : Key → Int) (rs : Regs) (op : Op)
    (h : Regs.KeysIn T rs) (ho : op.KeysIn T) : Regs.KeysIn T (stepM cc T m rs op).regs :=
  fun c hc => Comp.Built.keysIn h (step_built cc T m rs op _ (fun _ => Op.writes_inT hT ho) c hc)

theorem strOK_of_keysIn (T : Table) (rs : Regs) (op : Op) (h : Regs.KeysIn T rs) : op.StrOK T rs := by
  cases op <;> dsimp only [Op.StrOK]
  case incs r s v =>
    intro hhas
    exact parseSpec_of_inT T s (Regs.at_forall h (Ents.keysIn_nil T) r _ (has_iff_mem_keys.1 hhas))

theorem runOK_of_keysIn (cc : CharClass) (T : Table) (hT : T.Own) (m : Key → Int) (ops : List Op) (rs : Regs)
    (h : Regs.KeysIn T rs) (ho : ∀ op ∈ ops, op.KeysIn T) : RunOK cc T m rs ops := by
  induction ops generalizing rs with
  | nil => trivial
  | cons op rest ih =>
    exact ⟨strOK_of_keysIn T rs op h,
      ih _ (step_keysIn cc T hT m rs op h (ho op (List.mem_cons_self ..)))
        (fun o hmem => ho o (List.mem_cons_of_mem _ hmem))⟩

theorem run_keysIn (cc : CharClass) (T : Table) (hT : T.Own) (m : Key → Int) (ops : List Op) (rs : Regs)
    (h : Regs.KeysIn T rs) (ho : ∀ op ∈ ops, op.KeysIn T) : Regs.KeysIn T (runM cc T m rs ops) :=
  List.foldlRecOn ops _ h fun rs h op hop => step_keysIn cc T hT m rs op h (ho op hop)

theorem lockstep_trace_keys (cc : CharClass) (T : Table) (hT : T.Own) (m : Key → Int) (φ : Form → Form)
    (hφ : ∀ f, (φ f).isEnum = f.isEnum) (ops : List Op) (rs rs' : Regs)
    (hk : rs.keys = rs'.keys) (hn : Regs.NoDup rs) (hi : rs.Inv m) (hi' : rs'.Inv m)
    (hin : Regs.KeysIn T rs) (hops : ∀ op ∈ ops, op.KeysIn T) :
    traceM cc T m rs ops = traceM cc T m rs' (ops.map (Op.mapForm φ)) :=
  lockstep_trace cc T m φ hφ ops rs rs' hk hn hi hi' (runOK_of_keysIn cc T hT m ops rs hin hops)

theorem lockstep_run_keys (cc : CharClass) (T : Table) (hT : T.Own) (m : Key → Int) (φ : Form → Form)
    (hφ : ∀ f, (φ f).isEnum = f.isEnum) (ops : List Op) (rs rs' : Regs)
    (hk : rs.keys = rs'.keys) (hn : Regs.NoDup rs) (hi : rs.Inv m) (hi' : rs'.Inv m)
    (hin : Regs.KeysIn T rs) (hops : ∀ op ∈ ops, op.KeysIn T) :
    (runM cc T m rs ops).keys = (runM cc T m rs' (ops.map (Op.mapForm φ))).keys :=
  lockstep_run cc T m φ hφ ops rs rs' hk hn hi hi' (runOK_of_keysIn cc T hT m ops rs hin hops)

/-- from the empty register file: no hypothesis on the registers at all -/
theorem lockstep_trace_fresh (cc : CharClass) (T : Table) (hT : T.Own) (m : Key → Int) (φ : Form → Form)
    (hφ : ∀ f, (φ f).isEnum = f.isEnum) (ops : List Op) (n : Nat) (f f' : Form) (hf : f'.isEnum = f.isEnum)
    (hops : ∀ op ∈ ops, op.KeysIn T) :
    traceM cc T m (List.replicate n (Comp.empty f)) ops =
      traceM cc T m (List.replicate n (Comp.empty f')) (ops.map (Op.mapForm φ)) :=
  lockstep_trace_keys cc T hT m φ hφ ops _ _ (by simp [Regs.keys, Comp.key, Comp.empty, hf])
    (List.forall_mem_replicate.2 (.inr nodup_nil)) (List.forall_mem_replicate.2 (.inr (Or.inl rfl)))
    (List.forall_mem_replicate.2 (.inr (Or.inl rfl))) (List.forall_mem_replicate.2 (.inr (Ents.keysIn_nil T))) hops

end Chem
