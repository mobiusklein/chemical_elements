import ChemProofs.Props.C02
import ChemProofs.Props.C04
import ChemProofs.Props.C16
import Batteries.Data.List.Perm
/- C06 — list-backed and map-backed compositions are observationally identical. -/
namespace Chem
open Ents

/-- `into_map`, `into_vec` and the `From` conversions preserve every entry (that the target form is the
    requested one is `convChain_form`) -/
theorem conv_preserves (c : Comp) (f : Form) (h : c.ents.NoDupKeys) :
    (convChain c f).ents = c.ents ∧ absC (convChain c f) = absC c :=
  ⟨convChain_ents c f h, absC_convChain c f h⟩

/-- what is observable of a composition apart from its representation: the entry LIST (not the set of its keys: equal
    `key`s are the same entries in the same order) and whether it is wrapped in the enum (the enum's `get_str` is the
    documented richer lookup) -/
def Comp.key (c : Comp) : Ents × Bool := (c.ents, c.form.isEnum)
def Regs.keys (rs : Regs) : List (Ents × Bool) := rs.map Comp.key

def Op.mapForm (φ : Form → Form) : Op → Op
  | .new r f => .new r (φ f)
  | .conv d a f => .conv d a (φ f)
  | .fromkv d f v ps => .fromkv d (φ f) v ps
  | op => op

theorem Regs.keys_put (rs : Regs) (i : Nat) (c : Comp) : (rs.put i c).keys = rs.keys.set i c.key :=
  List.map_set

theorem Regs.key_at (rs rs' : Regs) (h : rs.keys = rs'.keys) (i : Nat) : (rs.at i).key = (rs'.at i).key := by
  rw [← Regs.at_map Comp.key, ← Regs.at_map Comp.key, ← Regs.keys, h]
  rfl

theorem Regs.keys_set_at (rs : Regs) (r : Nat) : rs.keys.set r (rs.at r).key = rs.keys := by
  rw [Regs.at, List.getD_eq_getElem?_getD]
  by_cases hr : r < rs.length
  · simp [Regs.keys, hr, ← List.map_set]
  · exact List.set_eq_of_length_le (by simpa [Regs.keys] using hr)

/-- validity of the string argument of `inc_str`: a plain key that is present is a table symbol; `inc_str` is then
    `c[s] += v` whatever the representation (`Comp.incStr_eq_strIdxAdd`) -/
def Op.StrOK (T : Table) (rs : Regs) : Op → Prop
  | .incs r s _ => (rs.at r).ents.has (s, 0) = true → parseSpec T s = .ok (s, 0)
  | _ => True

/-! `Comp.key` commutes with every mutator: the key of the result is a function of the keys of the arguments.  That,
and that every read is a function of the key, is the whole of `lockstep_step`. -/

theorem Comp.key_empty (f : Form) : (Comp.empty f).key = ([], f.isEnum) := rfl

theorem Comp.key_set (c : Comp) (k : Key) (v : Int) : (c.set k v).key = (c.key.1.set k v, c.key.2) := rfl

theorem Comp.key_inc (c : Comp) (k : Key) (v : Int) : (c.inc k v).key = (c.key.1.inc k v, c.key.2) := rfl

theorem Comp.key_iterMut (c : Comp) (f : Int → Int) : (c.iterMut f).key = (c.key.1.mapCounts f, c.key.2) := rfl

theorem Comp.key_touch (c : Comp) : Comp.key { c with cache := none } = c.key := rfl

theorem Comp.key_addFrom (a b : Comp) (s : Int) :
    (a.addFrom b.ents s).key = (a.key.1.addFrom b.key.1 s, a.key.2) := by
  rw [Comp.key, Comp.addFrom_ents, Comp.addFrom_form]
  rfl

theorem Comp.key_fmass (m : Key → Int) (c : Comp) : (c.fmass m).1.key = c.key := by
  rw [Comp.key, Comp.fmass_ents, Comp.fmass_form]
  rfl

theorem key_convChain (c : Comp) (f : Form) (h : c.ents.NoDupKeys) : (convChain c f).key = (c.key.1, f.isEnum) := by
  rw [Comp.key, convChain_ents c f h, convChain_form]
  rfl

theorem Comp.key_ofPairs (f : Form) (ps : Ents) : (Comp.ofPairs f ps).key = (Ents.ofPairs ps, f.isEnum) := rfl

/-- **lock-step, one step**: same entries in, same entries and same value read out, whatever
    the representations (`φ` may turn list-backed forms into map-backed ones and back, as long as
    direct stays direct and enum-wrapped stays enum-wrapped). -/
theorem lockstep_step (cc : CharClass) (T : Table) (m : Key → Int) (φ : Form → Form)
    (hφ : ∀ f, (φ f).isEnum = f.isEnum) (rs rs' : Regs) (op : Op)
    (hk : rs.keys = rs'.keys) (hn : Regs.NoDup rs) (hi : rs.Inv m) (hi' : rs'.Inv m)
    (hs : op.StrOK T rs) :
    (stepM cc T m rs op).regs.keys = (stepM cc T m rs' (op.mapForm φ)).regs.keys ∧
    (stepM cc T m rs op).read = (stepM cc T m rs' (op.mapForm φ)).read ∧
    (stepM cc T m rs op).panicked = (stepM cc T m rs' (op.mapForm φ)).panicked := by
  have hat := Regs.key_at rs rs' hk
  have hents : ∀ i, (rs.at i).ents = (rs'.at i).ents := fun i => congrArg Prod.fst (hat i)
  have hform : ∀ i, (rs.at i).form.isEnum = (rs'.at i).form.isEnum := fun i => congrArg Prod.snd (hat i)
  cases op <;> dsimp only [stepM, Op.mapForm]
  -- first what is particular to an operation (`case'` leaves its goals open); the writes are all closed at the end
  case' incs r s v =>
    rw [Comp.incStr_eq_strIdxAdd T _ s v hs, Comp.incStr_eq_strIdxAdd T _ s v (hents r ▸ hs), Comp.strIdxAdd, Comp.strIdxAdd]
    cases parseSpec T s
  case' sset r s v =>
    rw [Comp.strIdxSet, Comp.strIdxSet]
    cases parseSpec T s
  case' sadd r s v =>
    rw [Comp.strIdxAdd, Comp.strIdxAdd]
    cases parseSpec T s
  case' gsm r s v =>
    -- without a plain entry the step at most clears a cache, which no key shows
    rw [show (rs'.at r).ents.has (s, 0) = (rs.at r).ents.has (s, 0) by rw [hents r]]
    simp only [apply_ite StepOut.regs, apply_ite StepOut.read, apply_ite StepOut.panicked, apply_ite Regs.keys, ite_self]
  case' fmass r =>
    rw [(mass_correct m _ (Regs.at_forall hi (Or.inl rfl) r)).2.1, (mass_correct m _ (Regs.at_forall hi' (Or.inl rfl) r)).2.1, hents r]
  case' conv d a f =>
    rw [Regs.keys_put, Regs.keys_put, key_convChain _ _ (Regs.at_forall hn nodup_nil a),
      key_convChain _ _ (hents a ▸ Regs.at_forall hn nodup_nil a)]
  -- a read is a function of the entries (and, for `get_str`, of `isEnum`)
  case get r k | idx r k => exact ⟨hk, by rw [Comp.get, Comp.get, hents r], rfl⟩
  case gets r s => exact ⟨hk, by rw [Comp.getStr, Comp.getStr, Comp.strIndex, Comp.strIndex, hents r, hform r], rfl⟩
  case sidx r s => exact ⟨hk, by rw [Comp.strIndex, Comp.strIndex, hents r], rfl⟩
  case eq a b => exact ⟨hk, by rw [Comp.eqv, Comp.eqv, hents a, hents b], rfl⟩
  -- a write: `Comp.key` commutes with every mutator
  all_goals simp only [Regs.keys_put, Regs.keys_set_at, Comp.idxSet_eq, Comp.idxAdd_eq, Comp.mulNew_eq, Comp.mulBy_eq,
      Comp.addNew_eq, Comp.key_empty, Comp.key_set, Comp.key_inc, Comp.key_iterMut, Comp.key_addFrom, Comp.key_fmass,
      Comp.key_touch, fromkv_eq, Comp.key_ofPairs, hat, hk, hφ, ite_self, and_self]

/-- the string arguments of `inc_str` stay valid along a history -/
def RunOK (cc : CharClass) (T : Table) (m : Key → Int) : Regs → List Op → Prop
  | _, [] => True
  | rs, op :: rest => op.StrOK T rs ∧ RunOK cc T m (stepM cc T m rs op).regs rest

/-- **lock-step over whole histories** of any length: the list-backed, map-backed and enum-wrapped runs of one history
    end with the same entries (what is read on the way: `lockstep_trace`). -/
theorem lockstep_run (cc : CharClass) (T : Table) (m : Key → Int) (φ : Form → Form)
    (hφ : ∀ f, (φ f).isEnum = f.isEnum) (ops : List Op) (rs rs' : Regs)
    (hk : rs.keys = rs'.keys) (hn : Regs.NoDup rs) (hi : rs.Inv m) (hi' : rs'.Inv m)
    (hs : RunOK cc T m rs ops) :
    (runM cc T m rs ops).keys = (runM cc T m rs' (ops.map (Op.mapForm φ))).keys := by
  induction ops generalizing rs rs' with
  | nil => exact hk
  | cons op rest ih =>
    simp only [runM, List.map_cons, List.foldl_cons]
    have h := lockstep_step cc T m φ hφ rs rs' op hk hn hi hi' hs.1
    exact ih _ _ h.1 (step_nodup cc T m rs op hn) (step_inv cc T m rs op hi)
      (step_inv cc T m rs' _ hi') hs.2

/-- what a client observes along a history: per operation, the value read (if the operation reads) and whether it panicked -/
def traceM (cc : CharClass) (T : Table) (m : Key → Int) : Regs → List Op → List (Option Int × Bool)
  | _, [] => []
  | rs, op :: rest =>
    ((stepM cc T m rs op).read, (stepM cc T m rs op).panicked) :: traceM cc T m (stepM cc T m rs op).regs rest

/-- **lock-step over whole histories, observations included**: `lockstep_run` says that the two runs END with the same
    entries; the property says more — the two compositions are indistinguishable through the public API along the way.
    Same reads, same panics, step by step, for histories of any length, under any relabelling of representations that
    keeps direct direct and enum-wrapped enum-wrapped. -/
theorem lockstep_trace (cc : CharClass) (T : Table) (m : Key → Int) (φ : Form → Form)
    (hφ : ∀ f, (φ f).isEnum = f.isEnum) (ops : List Op) (rs rs' : Regs)
    (hk : rs.keys = rs'.keys) (hn : Regs.NoDup rs) (hi : rs.Inv m) (hi' : rs'.Inv m)
    (hs : RunOK cc T m rs ops) :
    traceM cc T m rs ops = traceM cc T m rs' (ops.map (Op.mapForm φ)) := by
  induction ops generalizing rs rs' with
  | nil => rfl
  | cons op rest ih =>
    simp only [traceM, List.map_cons]
    have h := lockstep_step cc T m φ hφ rs rs' op hk hn hi hi' hs.1
    rw [h.2.1, h.2.2]
    congr 1
    exact ih _ _ h.1 (step_nodup cc T m rs op hn) (step_inv cc T m rs op hi)
      (step_inv cc T m rs' _ hi') hs.2

theorem Ents.eqv_iff (a b : Ents) (ha : a.NoDupKeys) (hb : b.NoDupKeys) :
    a.eqv b = true ↔ ∀ k, abs a k = abs b k := by
  -- `eqv` says: same length and every entry of `a` is an entry of `b`; without duplicates that is "same entries"
  have sub : ∀ {x y : Ents}, x.NoDupKeys → x ⊆ y → x.Subperm y :=
    fun hx h => List.subperm_of_subset hx.nodup h
  rw [same_abs_iff a b ha hb]
  unfold Ents.eqv
  simp only [Bool.and_eq_true, beq_iff_eq, List.all_eq_true, List.any_eq_true]
  constructor
  · rintro ⟨hlen, hall⟩ e
    have hsub : a ⊆ b := fun e he => by
      obtain ⟨e2, he2, h1, h2⟩ := hall e he
      exact (Prod.ext h1 h2 : e2 = e) ▸ he2
    exact ((sub ha hsub).perm_of_length_le (Nat.le_of_eq hlen.symm)).mem_iff
  · intro h
    have l1 := (sub ha fun e => (h e).1).length_le
    have l2 := (sub hb fun e => (h e).2).length_le
    exact ⟨Nat.le_antisymm l1 l2, fun e he => ⟨e, (h e).1 he, rfl, rfl⟩⟩

/-- **equality holds exactly when both sides have the same keys with the same counts**, whatever
    the representations and insertion orders -/
theorem eqv_iff (a b : Comp) (ha : a.ents.NoDupKeys) (hb : b.ents.NoDupKeys) :
    a.eqv b = true ↔ FMap.Same (absC a) (absC b) := Ents.eqv_iff a.ents b.ents ha hb

theorem parseSpec_no_bracket (T : Table) (s : Sym) (h : 91 ∉ s) (k : Key) (hk : parseSpec T s = .ok k) :
    k.2 = 0 := by
  obtain ⟨e, _, rfl, _⟩ := (spec_accepts_only T s k).1 ⟨hk, h⟩
  rfl

/-- **a string key such as "C" never reads the entry of a fixed isotope such as C[13]**: a
    bracket-free string reads `0` or the count of a key without fixed isotope, on every form.  The statement is about
    the value only and does not say of which key; the proof exhibits `(s, 0)` or the key `s` parses to, and `str_read_agrees` /
    `getStr_agrees` (Props/C16.lean) say that it is the key `s` parses to. -/
theorem str_read_isolated (cc : CharClass) (T : Table) (c : Comp) (s : Sym) (h : 91 ∉ s) :
    (c.strIndex cc T s = 0 ∨ ∃ k : Key, k.2 = 0 ∧ c.strIndex cc T s = c.ents.get k) ∧
    (c.getStr cc T s = 0 ∨ ∃ k : Key, k.2 = 0 ∧ c.getStr cc T s = c.ents.get k) := by
  have hidx : c.strIndex cc T s = 0 ∨ ∃ k : Key, k.2 = 0 ∧ c.strIndex cc T s = c.ents.get k := by
    unfold Comp.strIndex
    split
    · exact Or.inr ⟨(s, 0), rfl, rfl⟩
    · exact Or.inl rfl
    · split
      · rename_i k hk
        exact Or.inr ⟨k, parseSpec_no_bracket T s h k hk, rfl⟩
      · exact Or.inl rfl
  refine ⟨hidx, ?_⟩
  unfold Comp.getStr
  split
  · exact hidx
  · exact Or.inr ⟨(s, 0), rfl, rfl⟩

/-- … and a string-keyed write through a bracket-free string never updates one -/
theorem str_write_isolated (T : Table) (c c' : Comp) (s : Sym) (v : Int) (h : 91 ∉ s) (k : Key) (hk : k.2 ≠ 0)
    (hw : c.strIdxSet T s v = .ok c' ∨ c.strIdxAdd T s v = .ok c' ∨ c.incStr T s v = .ok c') :
    c'.ents.get k = c.ents.get k := by
  -- the entry written is the one the string parses to or the plain one: neither has a fixed isotope
  obtain ⟨k0, w, hk0, rfl⟩ := Comp.strWrite_ok hw
  have h0 : k0.2 = 0 := hk0.elim (parseSpec_no_bracket T s h k0) fun e => e.1 ▸ rfl
  exact (get_set c.ents k0 w k).trans (if_neg fun (e : k = k0) => hk (e ▸ h0))

-- non-vacuity and the witnesses of the repaired defects
example : Ents.eqv [((([72] : Sym), 0), 0), (([79], 0), 0)] [(([67], 0), 0), (([79], 0), 0)] = false := by decide +kernel
example : Ents.eqv [((([72] : Sym), 0), 2), (([79], 0), 1)] [(([79], 0), 1), (([72], 0), 2)] = true := by decide +kernel
/-- D27 on the pre-repair `==` (`other.get(k) == v` reads an absent key as 0) -/
def legacyEqv (a b : Ents) : Bool := a.length == b.length && a.all (fun e => b.get e.1 == e.2)
example : legacyEqv [((([72] : Sym), 0), 0), (([79], 0), 0)] [(([67], 0), 0), (([79], 0), 0)] = true := by decide +kernel

end Chem
