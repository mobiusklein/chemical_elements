import ChemProofs.Props.C15
import ChemProofs.Lemmas.CutSort
import ChemProofs.Lemmas.BrainLists
import ChemProofs.Lemmas.Res
/-
C09 — shape of the coarse (BRAIN) pattern and resolution of the requested peak count.

`resolveOrder` is `min (wanted req) (maxVariants c)` with `wanted req ≥ 0` read off the request (`resolveOrder_eq`; the i32
saturation and the second conversion of a guess disappear under the outer `max · 0`), so every statement about the
resolved order is linear arithmetic.
The returned list is `sortByMz (cutLoop cut raw false)` of the `order + 1` raw variants: the cut keeps a
sublist that contains the first variant and every variant with share `≥ cut` (`cutLoop_leading` says exactly
which), the sort permutes and is stable.
-/
namespace Chem

section Resolve
variable (K : BrainConsts) (c : BComp)

theorem updateOrder_nonneg {V x : Int} (hx : 0 ≤ x) : updateOrder V x = min x V :=
  if_neg (by rw [beq_iff_eq]; omega)

theorem reqOfInt_ne_zero (n : Int) (h : n ≠ 0) : reqOfInt n = .fixed n := by
  rw [reqOfInt, if_neg (mt beq_iff_eq.mp h)]

/-- the Poisson estimate of the number of peaks that carry the fraction `f` of the signal -/
abbrev est (f : Rat) : Int := poissonN (monoMassOf c K.one) K.lambdaFactor f K.maxIter

/-- the order a request asks for, before the cap by the number of variants: `n` peaks are order `n - 1`; a guess is
    the estimate capped by `guessCap`, converted twice and so at least 1 -/
def wanted : PeakReq → Int
  | .fixed n => max (n - 1) 0
  | .percent f => max (est K c f - 1) 0
  | .guess => max (min (est K c K.guessFraction) K.guessCap) 1

/-- saturation at `i32::MIN` is invisible below 0 -/
theorem max_sat_zero (x : Int) : max (max x (-2147483648)) 0 = max x 0 := by
  rw [Int.max_assoc, show max (-2147483648 : Int) 0 = 0 from rfl]

theorem resolveOrder_eq (req : PeakReq) : resolveOrder K c req = min (wanted K c req) (maxVariants c) := by
  cases req with
  | fixed n => exact (updateOrder_nonneg (Int.le_max_right _ _)).trans (by rw [max_sat_zero]; rfl)
  | percent f => exact updateOrder_nonneg (Int.le_max_right _ _)
  | guess =>
    show updateOrder _ (numPeaks K c (reqOfInt (numPeaks K c .guess)) + 1) = min (max (numPeaks K c .guess) 1) _
    by_cases h0 : numPeaks K c .guess = 0
    · rw [h0, show reqOfInt 0 = .guess from rfl, h0]
      rfl
    · rw [reqOfInt_ne_zero _ h0]
      show updateOrder _ (max (max (numPeaks K c .guess - 1) (-2147483648)) 0 + 1) = _
      rw [max_sat_zero, updateOrder_nonneg (by omega), ← max_add_add_right, Int.sub_add_cancel, Int.zero_add]

theorem resolveOrder_fixed_eq (n : Int) :
    resolveOrder K c (.fixed n) = min (max (max (n - 1) (-2147483648)) 0) (maxVariants c) := by
  rw [resolveOrder_eq, wanted, max_sat_zero]

theorem resolve_fixed (n : Int) (hn : 1 ≤ n) (_hn' : n ≤ 2147483647) :
    resolveOrder K c (.fixed n) = min (n - 1) (maxVariants c) := by
  rw [resolveOrder_eq, wanted, max_eq_left (Int.sub_nonneg_of_le hn)]

theorem resolve_fixed_nonpos (hV : 0 ≤ maxVariants c) (n : Int) (hn : n ≤ 0) :
    resolveOrder K c (.fixed n) = 0 := by
  rw [resolveOrder_eq, wanted, max_eq_right (by omega), min_eq_left hV]

/-- `guess`: the Poisson estimate at `guessFraction`, capped by `guessCap` and by the number of variants -/
theorem resolve_guess (hM : 1 ≤ K.maxIter) (hC : 1 ≤ K.guessCap) :
    resolveOrder K c .guess =
      min (min (poissonN (monoMassOf c K.one) K.lambdaFactor K.guessFraction K.maxIter : Int) K.guessCap)
        (maxVariants c) := by
  have hP := (poissonN_range (monoMassOf c K.one) K.lambdaFactor K.guessFraction K.maxIter hM).1
  rw [resolveOrder_eq, wanted, max_eq_left (le_min (Nat.one_le_cast.mpr hP) hC)]

theorem resolve_guess_cap (hM : 1 ≤ K.maxIter) (hC : 1 ≤ K.guessCap) :
    resolveOrder K c .guess ≤ K.guessCap := by
  rw [resolve_guess K c hM hC]
  exact min_le_of_left_le (min_le_right _ _)

/-- a request by signal fraction = a fixed request for the Poisson peak-count estimate -/
theorem resolve_percent (hM : 1 ≤ K.maxIter) (_hM' : K.maxIter ≤ 2147483647) (f : Rat) :
    resolveOrder K c (.percent f) =
      resolveOrder K c (.fixed (poissonN (monoMassOf c K.one) K.lambdaFactor f K.maxIter)) := by
  rw [resolveOrder_eq, resolveOrder_eq]
  rfl

theorem resolve_percent_val (hM : 1 ≤ K.maxIter) (f : Rat) :
    resolveOrder K c (.percent f) =
      min ((poissonN (monoMassOf c K.one) K.lambdaFactor f K.maxIter : Int) - 1) (maxVariants c) := by
  have hP := (poissonN_range (monoMassOf c K.one) K.lambdaFactor f K.maxIter hM).1
  rw [resolveOrder_eq, wanted, max_eq_left (Int.sub_nonneg_of_le (Nat.one_le_cast.mpr hP))]

/-- every request (including the `i32` extremes, and with no assumption on the constants) resolves
    to an order in `0 ..= V` -/
theorem resolve_bounds (hV : 0 ≤ maxVariants c) (req : PeakReq) :
    0 ≤ resolveOrder K c req ∧ resolveOrder K c req ≤ maxVariants c := by
  rw [resolveOrder_eq]
  refine ⟨le_min ?_ hV, min_le_right _ _⟩
  cases req <;> exact le_max_of_le_right (by decide)

/-- in particular `order.toNat` in `brainVariants` loses nothing -/
theorem resolve_toNat (hV : 0 ≤ maxVariants c) (req : PeakReq) :
    ((resolveOrder K c req).toNat : Int) = resolveOrder K c req :=
  Int.toNat_of_nonneg (resolve_bounds K c hV req).1

end Resolve

theorem probabilityVector_length {consts : IsoConstants} {c : BComp} {order : Nat} {V : Int} {base : Rat}
    {prob : DVec} (h : probabilityVector consts c order V base = .ok prob) : prob.length = order + 1 := by
  unfold probabilityVector at h
  obtain ⟨phis, hphis, h⟩ := Res.bind_eq_ok.mp h
  rw [← Res.ok.inj h, List.length_map, List.length_zipIdx, espOfPs_length, List.length_cons, mapRes_length hphis,
    List.length_range]

theorem centerMassVector_length {consts : IsoConstants} {c : BComp} {order : Nat} {V : Int} {base one : Rat}
    {prob cm : DVec} (h : centerMassVector consts c order V base one prob = .ok cm) :
    cm.length = order + 1 := by
  unfold centerMassVector at h
  obtain ⟨polys, _, h⟩ := Res.bind_eq_ok.mp h
  simpa using mapRes_length h

theorem zip_map_int (cm prob : DVec) (F : Rat → Rat) (tot : Rat) (h : cm.length = prob.length) :
    intensities ((cm.zip prob).map fun (m, p) => ({ mz := F m, int := p / tot } : Peak)) =
      prob.map (· / tot) := by
  conv_rhs => rw [← List.map_snd_zip (l₁ := cm) (l₂ := prob) h.ge]
  simp only [intensities, List.map_map, Function.comp_def]

theorem rawVariants_ok {K : BrainConsts} {consts : IsoConstants} {c : BComp} {order : Nat} {z : Int}
    {carrier : Rat} {raw : List Peak} (h : rawVariants K consts c order z carrier = .ok raw) :
    ∃ prob, probabilityVector consts c order (maxVariants c) (baseIntensity c K.one) = .ok prob ∧
      prob.length = order + 1 ∧ raw.length = order + 1 ∧
      intensities raw = prob.map (· / prob.sum) := by
  unfold rawVariants at h
  obtain ⟨prob, hprob, h⟩ := Res.bind_eq_ok.mp h
  obtain ⟨cm, hcm, h⟩ := Res.bind_eq_ok.mp h
  have hpl := probabilityVector_length hprob
  have hcl := centerMassVector_length hcm
  have hzip : (cm.zip prob).length = order + 1 := by rw [List.length_zip, hcl, hpl, Nat.min_self]
  have htake : (cm.zip prob).take (order + 1) = cm.zip prob := List.take_of_length_le hzip.le
  cases h
  refine ⟨prob, hprob, hpl, ?_, ?_⟩
  · rw [htake, List.length_map, hzip]
  · rw [htake]
    exact zip_map_int cm prob (fun m => chargedMz m z carrier) prob.sum (hcl.trans hpl.symm)

theorem rawVariants_length (K : BrainConsts) (consts : IsoConstants) (c : BComp) (order : Nat) (z : Int)
    (carrier : Rat) (raw : List Peak) (h : rawVariants K consts c order z carrier = .ok raw) :
    raw.length = order + 1 := by
  obtain ⟨_, _, _, hl, _⟩ := rawVariants_ok h
  exact hl

theorem rawVariants_ne_nil {K : BrainConsts} {consts : IsoConstants} {c : BComp} {order : Nat} {z : Int}
    {carrier : Rat} {raw : List Peak} (h : rawVariants K consts c order z carrier = .ok raw) : raw ≠ [] :=
  List.ne_nil_of_length_pos (by rw [rawVariants_length K consts c order z carrier raw h]; omega)

section Output
variable (K : BrainConsts) (consts : IsoConstants) (c : BComp) (order : Nat) (z : Int) (carrier : Rat)
  (raw : List Peak) (h : rawVariants K consts c order z carrier = .ok raw)
include h

theorem variantsWith_eq :
    variantsWith K consts c order z carrier = .ok (sortByMz (cutLoop K.cut raw false)) := by
  unfold variantsWith
  rw [h]
  rfl

theorem variantsWith_nonempty :
    ∃ out, variantsWith K consts c order z carrier = .ok out ∧ out ≠ [] :=
  ⟨_, variantsWith_eq K consts c order z carrier raw h,
    sortByMz_ne_nil _ (cutLoop_nonempty K.cut raw false
      (rawVariants_ne_nil h) (Or.inr rfl))⟩

/-- **shape of the coarse pattern**: the output is non-empty, sorted by m/z, has at most `order + 1`
    peaks, every peak of it is a raw variant, every raw variant with share `≥ cut` is in it,
    and the very first variant (the monoisotopic one) is always in it. -/
theorem variantsWith_shape :
    ∃ out, variantsWith K consts c order z carrier = .ok out ∧
      out = sortByMz (cutLoop K.cut raw false) ∧
      out ≠ [] ∧
      out.Pairwise (fun a b => a.mz ≤ b.mz) ∧
      out.length ≤ order + 1 ∧
      raw.length = order + 1 ∧
      (∀ p ∈ out, p ∈ raw) ∧
      (∀ p ∈ raw, K.cut ≤ p.int → p ∈ out) ∧
      (∀ p, raw.head? = some p → p ∈ out) := by
  have hlen := rawVariants_length K consts c order z carrier raw h
  obtain ⟨js, hsp, hhead, hkeep, he, hs⟩ := sortByMz_cutLoop_spec K.cut id raw
  simp only [List.map_id] at he hs
  refine ⟨_, variantsWith_eq K consts c order z carrier raw h, rfl, ?_⟩
  rw [he]
  refine ⟨?_, hs, hlen ▸ hsp.length_le, hlen, fun p hp => hsp.subset hp, hkeep, hhead⟩
  obtain ⟨q, rest, rfl⟩ := List.exists_cons_of_ne_nil (rawVariants_ne_nil h)
  exact List.ne_nil_of_mem (hhead q rfl)

/-- when no variant falls below the cut, the output is a permutation of all `order + 1` variants -/
theorem variantsWith_all (hall : ∀ p ∈ raw, K.cut ≤ p.int) :
    ∃ out, variantsWith K consts c order z carrier = .ok out ∧ out.Perm raw ∧ out.length = order + 1 := by
  have hcut : cutLoop K.cut raw false = raw := cutLoop_eq_self _ _ _ hall
  refine ⟨_, variantsWith_eq K consts c order z carrier raw h, ?_, ?_⟩
  · rw [hcut]
    exact sortByMz_perm raw
  · rw [hcut, sortByMz_length]
    exact rawVariants_length K consts c order z carrier raw h

/-- the raw intensities sum to 1 when the probability vector does not sum to 0 -/
theorem rawVariants_total (prob : DVec)
    (hprob : probabilityVector consts c order (maxVariants c) (baseIntensity c K.one) = .ok prob)
    (hs : prob.sum ≠ 0) : total raw = 1 := by
  obtain ⟨prob', hprob', _, _, hint⟩ := rawVariants_ok h
  rw [hprob] at hprob'
  cases hprob'
  unfold total
  rw [hint]
  exact sum_div_self prob hs

/-- the returned intensities sum to `1 −` the share of the omitted variants (the sub-`cut` ones after
    the first variant with share `≥ cut`) -/
theorem variantsWith_total (prob : DVec)
    (hprob : probabilityVector consts c order (maxVariants c) (baseIntensity c K.one) = .ok prob)
    (hs : prob.sum ≠ 0) :
    ∃ out, variantsWith K consts c order z carrier = .ok out ∧
      total out = 1 - total ((raw.dropWhile (fun p => decide (p.int < K.cut))).filter
                              (fun p => decide (p.int < K.cut))) := by
  refine ⟨_, variantsWith_eq K consts c order z carrier raw h, ?_⟩
  rw [sortByMz_total, cutLoop_total, rawVariants_total K consts c order z carrier raw h prob hprob hs]

end Output

theorem brainVariants_ok {K : BrainConsts} {c : BComp} {req : PeakReq} {z : Int} {carrier : Rat} {out : List Peak}
    (h : brainVariants K c req z carrier = .ok out) :
    ∃ consts raw, populate K c (resolveOrder K c req) = .ok consts ∧
      rawVariants K consts c (resolveOrder K c req).toNat z carrier = .ok raw ∧
      out = sortByMz (cutLoop K.cut raw false) := by
  unfold brainVariants at h
  obtain ⟨consts, hc, h⟩ := Res.bind_eq_ok.mp h
  unfold variantsWith at h
  obtain ⟨raw, hraw, h⟩ := Res.bind_eq_ok.mp h
  cases h
  exact ⟨consts, raw, hc, hraw, rfl⟩

/-- **C09, shape**: whatever is requested, a successful call returns a non-empty list, sorted by m/z,
    of at most `resolveOrder + 1 ≤ V + 1` peaks -/
theorem brainVariants_shape (K : BrainConsts) (c : BComp) (hV : 0 ≤ maxVariants c) (req : PeakReq) (z : Int)
    (carrier : Rat) (out : List Peak) (h : brainVariants K c req z carrier = .ok out) :
    out ≠ [] ∧ out.Pairwise (fun a b => a.mz ≤ b.mz) ∧
      (out.length : Int) ≤ resolveOrder K c req + 1 ∧ (out.length : Int) ≤ maxVariants c + 1 := by
  obtain ⟨consts, raw, _, hraw, rfl⟩ := brainVariants_ok h
  obtain ⟨out', ho, rfl, hne, hs, hl, _⟩ := variantsWith_shape K consts c _ z carrier raw hraw
  have hb := resolve_bounds K c hV req
  have ht := resolve_toNat K c hV req
  refine ⟨hne, hs, ?_, ?_⟩ <;> omega

namespace C09Ex

/-- a two-isotope toy element: most abundant isotope 12 (mass 12000, 99 %), isotope 13 (shift 1).  Good for `maxVariants` and
    `resolveOrder` only: with `elemNum := 6` the key walk of the generator meets neither isotope (it starts at key `elemNum`,
    see `Dom.walk`), so `brainVariants` panics on it; `C08Ex.X` has `elemNum := 12`. -/
def elemX : Elem :=
  { tkey := [88], sym := [88],
    isos := [⟨12, 12000, 9900, 6, 0⟩, ⟨13, 13003, 100, 7, 1⟩],
    mostIso := 12, mostMass := 12000, minShift := 0, maxShift := 1, elemNum := 6 }

def K0 : BrainConsts :=
  { one := 1000, lambdaFactor := 1800, maxIter := 255, guessCap := 20, guessFraction := 999 / 1000, cut := 1 / 1000000 }

/-- `X10`: ten variants beyond the monoisotopic one -/
def comp10 : BComp := [(elemX, 10)]
def comp2 : BComp := [(elemX, 2)]

example : maxVariants comp10 = 10 := by decide +kernel
example : resolveOrder K0 comp10 (.fixed 1) = 0 := by decide +kernel
example : resolveOrder K0 comp10 (.fixed 5) = 4 := by decide +kernel
example : resolveOrder K0 comp2 (.fixed 5) = 2 := by decide +kernel           -- capped by V
example : resolveOrder K0 comp10 (.fixed 0) = 0 := by decide +kernel
example : resolveOrder K0 comp10 (.fixed (-1)) = 0 := by decide +kernel
example : resolveOrder K0 comp10 (.fixed (-2147483648)) = 0 := by decide +kernel      -- i32::MIN
example : resolveOrder K0 comp10 (.fixed 2147483647) = 10 := by decide +kernel        -- i32::MAX
example : resolveOrder K0 comp10 (.fixed 5) = min 4 (maxVariants comp10) := by decide +kernel
example : resolveOrder K0 comp10 (.fixed 5) = min (5 - 1) (maxVariants comp10) :=
  resolve_fixed K0 comp10 5 (by decide) (by decide)
example : 0 ≤ resolveOrder K0 comp10 .guess ∧ resolveOrder K0 comp10 .guess ≤ 10 :=
  resolve_bounds K0 comp10 (by decide) .guess

example : poissonN (monoMassOf comp10 K0.one) K0.lambdaFactor K0.guessFraction K0.maxIter = 3 := by decide +kernel
example : resolveOrder K0 comp10 .guess = 3 := by decide +kernel
example : resolveOrder K0 comp2 .guess = 2 := by decide +kernel               -- capped by V
example : resolveOrder K0 comp10 (.percent (999 / 1000)) = 2 := by decide +kernel
example : resolveOrder K0 comp10 (.percent (1 / 2)) = 0 := by decide +kernel
example : resolveOrder K0 comp10 .guess =
    min (min (poissonN (monoMassOf comp10 K0.one) K0.lambdaFactor K0.guessFraction K0.maxIter : Int) K0.guessCap)
      (maxVariants comp10) :=
  resolve_guess K0 comp10 (by decide) (by decide)

-- the cut loop and the sort on a hand-made list: the leading sub-cut peak is kept, the trailing one is not
def pk (m i : Rat) : Peak := ⟨m, i⟩
example : cutLoop (1 / 10) [pk 1 (1 / 100), pk 2 (1 / 2), pk 3 (1 / 100), pk 4 (1 / 5)] false =
    [pk 1 (1 / 100), pk 2 (1 / 2), pk 4 (1 / 5)] := by decide +kernel
example : cutLoop (1 / 10) [pk 1 (1 / 100), pk 2 (1 / 200)] false = [pk 1 (1 / 100), pk 2 (1 / 200)] := by
  decide +kernel
example : sortByMz [pk 3 1, pk 1 2, pk 2 3, pk 1 4] = [pk 1 2, pk 1 4, pk 2 3, pk 3 1] := by decide +kernel

end C09Ex

end Chem
