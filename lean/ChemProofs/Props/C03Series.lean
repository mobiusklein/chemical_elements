import ChemProofs.Lemmas.BrainSpecPS
import ChemProofs.Lemmas.BrainIso
/-
C03 — the closed forms the python oracle evaluates (`aggProb_closed`, `aggMass_closed` in
Lemmas/BrainSpecPS.lean; the series in Lemmas/BrainSeries.lean), read two more ways: as a product
over the atoms of the composition, and with the element series written as isotope sums
`Σ aᵢ x^(shiftᵢ − lo)` (what the oracle builds them from).
-/
namespace Chem
namespace C03Series
open PowerSeries

/-- `leib l` for a list of pairs `(Pₐ, Mₐ)` is `Σ_a M_a · Π_{b ≠ a} P_b` (`leib_eq_sum`) -/
noncomputable def leib : List (ℚ⟦X⟧ × ℚ⟦X⟧) → ℚ⟦X⟧
  | [] => 0
  | x :: l => x.2 * (l.map Prod.fst).prod + x.1 * leib l

theorem leib_eq_sum (l : List (ℚ⟦X⟧ × ℚ⟦X⟧)) :
    leib l = (l.zipIdx.map fun p => p.1.2 * ((l.eraseIdx p.2).map Prod.fst).prod).sum := by
  induction l with
  | nil => rfl
  | cons x l ih =>
    rw [leib, ih, sum_zipIdx_eraseIdx_cons fun y l => y.2 * (l.map Prod.fst).prod, ← List.sum_map_mul_left]
    refine congrArg₂ _ rfl (congrArg List.sum (List.map_congr_left fun p _ => ?_))
    rw [List.map_cons, List.prod_cons, mul_left_comm]

theorem leib_append (l₁ l₂ : List (ℚ⟦X⟧ × ℚ⟦X⟧)) :
    leib (l₁ ++ l₂) =
      leib l₁ * (l₂.map Prod.fst).prod + (l₁.map Prod.fst).prod * leib l₂ := by
  induction l₁ with
  | nil => simp [leib]
  | cons x l ih =>
    rw [List.cons_append, leib, leib, ih, List.map_append, List.prod_append, List.map_cons,
      List.prod_cons]
    ring

theorem leib_replicate (n : Nat) (p m : ℚ⟦X⟧) :
    leib (List.replicate n (p, m)) = (n : ℚ⟦X⟧) * p ^ (n - 1) * m := by
  induction n with
  | zero =>
    rw [Nat.cast_zero, zero_mul, zero_mul]
    rfl
  | succ n ih =>
    rw [List.replicate_succ, leib, ih, List.map_replicate, List.prod_replicate]
    cases n with
    | zero =>
      push_cast
      ring
    | succ k =>
      simp only [Nat.add_sub_cancel, Nat.cast_add, Nat.cast_one]
      ring

theorem prod_replicate_fst (n : Nat) (p m : ℚ⟦X⟧) :
    ((List.replicate n (p, m)).map Prod.fst).prod = p ^ n := by
  rw [List.map_replicate, List.prod_replicate]

def atoms (c : List (Elem × Nat)) : List Elem := c.flatMap fun x => List.replicate x.2 x.1

noncomputable def atomPairs (one : Rat) (c : List (Elem × Nat)) : List (ℚ⟦X⟧ × ℚ⟦X⟧) :=
  (atoms c).map fun e => (P one e, M one e)

theorem atomPairs_cons (one : Rat) (x : Elem × Nat) (c : List (Elem × Nat)) :
    atomPairs one (x :: c) = List.replicate x.2 (P one x.1, M one x.1) ++ atomPairs one c := by
  unfold atomPairs atoms
  rw [List.flatMap_cons, List.map_append, List.map_replicate]

theorem probSeries_eq_atoms (one : Rat) (c : List (Elem × Nat)) :
    probSeries one c = ((atomPairs one c).map Prod.fst).prod := by
  induction c with
  | nil => rfl
  | cons x c ih =>
    rw [probSeries_eq_probOf, probOf_cons, ← probSeries_eq_probOf, ih, atomPairs_cons,
      List.map_append, List.prod_append, prod_replicate_fst]

/-- the closed form of the mass-weighted series is the Leibniz sum over all atoms -/
theorem masswSeries_eq_atoms (one : Rat) (c : List (Elem × Nat)) :
    masswSeries one c = leib (atomPairs one c) := by
  induction c with
  | nil => rfl
  | cons x c ih =>
    rw [masswSeries_eq_masswOf, masswOf_cons, ← masswSeries_eq_masswOf, ← probSeries_eq_probOf, ih,
      probSeries_eq_atoms, atomPairs_cons, leib_append, leib_replicate, prod_replicate_fst]

/-- single element: `prob = P^n`, `massw = n · P^(n−1) · M` -/
theorem single (one : Rat) (e : Elem) (n : Nat) :
    probSeries one [(e, n)] = P one e ^ n ∧
    masswSeries one [(e, n)] = (n : ℚ⟦X⟧) * P one e ^ (n - 1) * M one e := by
  rw [probSeries_eq_probOf, masswSeries_eq_masswOf, probOf_cons, masswOf_cons, probOf_nil,
    masswOf_nil, mul_one, mul_one, mul_zero, add_zero]
  exact ⟨rfl, rfl⟩

/-- `Σ_iso coeff · x^(shift − lo)` -/
noncomputable def isoSeries (one : Rat) (e : Elem) (withMass : Bool) : ℚ⟦X⟧ :=
  (e.isos.map fun i => C (isoCoeff one withMass i) * X ^ (i.shift - lo e).toNat).sum

/-- with pairwise distinct shifts "the first isotope of shift `s`" is "the isotope of shift `s`" -/
theorem find_eq_sum (l : List Iso) (s : Int) (f : Iso → Rat)
    (hnd : l.Pairwise (fun a b => a.shift ≠ b.shift)) :
    ((l.find? fun i => i.shift == s).map f).getD 0 =
      (l.map fun i => if i.shift = s then f i else 0).sum := by
  induction l with
  | nil => rfl
  | cons a l ih =>
    rw [List.pairwise_cons] at hnd
    rw [List.map_cons, List.sum_cons, List.find?_cons, ← ih hnd.2]
    by_cases ha : a.shift = s
    · have hnone : l.find? (fun i => i.shift == s) = none :=
        List.find?_eq_none.mpr fun i hi => by
          rw [beq_iff_eq]
          exact fun h => hnd.1 i hi (ha.trans h.symm)
      rw [if_pos ha, beq_iff_eq.mpr ha, hnone]
      exact (add_zero _).symm
    · rw [if_neg ha, zero_add, beq_false_of_ne ha]

theorem elemPoly_eq_isoSeries (e : Elem) (one : Rat) (wm : Bool)
    (hnd : e.isos.Pairwise (fun a b => a.shift ≠ b.shift)) :
    toPS (Spec.elemPoly e one wm) = isoSeries one e wm := by
  ext k
  have hlo := (foldl_min_spec (e.isos.map (·.shift)) 0).2
  have hhi := (foldl_max_spec (e.isos.map (·.shift)) 0).2
  rw [coeff_toPS, elemPoly_getD, find_eq_sum e.isos _ (isoCoeff one wm) hnd, isoSeries,
    ← List.sum_map_hom]
  have hterm : ∀ i ∈ e.isos, (coeff k ∘ fun i => C (isoCoeff one wm i) * X ^ (i.shift - lo e).toNat) i =
      if k ≤ Spec.elemSpan e ∧ i.shift = lo e + Int.ofNat k then isoCoeff one wm i else 0 := by
    intro i hi
    have h1 : lo e ≤ i.shift := hlo _ (List.mem_cons_of_mem _ (List.mem_map.2 ⟨i, hi, rfl⟩))
    have h2 := hhi _ (List.mem_cons_of_mem _ (List.mem_map.2 ⟨i, hi, rfl⟩))
    have hiff : k = (i.shift - lo e).toNat ↔
        k ≤ Spec.elemSpan e ∧ i.shift = lo e + Int.ofNat k := by
      -- by hand: an iff with two `toNat` is dear for `omega`
      constructor
      · rintro rfl
        refine ⟨Int.toNat_le_toNat (Int.sub_le_sub_right h2 _), ?_⟩
        rw [Int.ofNat_eq_natCast, Int.toNat_sub_of_le h1, add_sub_cancel]
      · rintro ⟨-, h⟩
        rw [h, add_sub_cancel_left]
        rfl
    rw [Function.comp_apply, coeff_C_mul, coeff_X_pow, mul_ite, mul_one, mul_zero]
    exact if_congr hiff rfl rfl
  rw [List.map_congr_left hterm]
  by_cases hk : k ≤ Spec.elemSpan e
  · simp only [hk, true_and, if_true]
  · simp only [hk, false_and, if_false, List.sum_map_zero]

/-- for a composition whose elements have pairwise distinct isotope shifts, and every
    `j ≤ d`, the specification's `aggProb` / `aggMass` at `j` are the `j`-th coefficients of the
    oracle's closed forms built from `P_e = Σ aᵢ x^(shiftᵢ−lo)`, `M_e = Σ aᵢ mᵢ x^(shiftᵢ−lo)`. -/
theorem closed_form (c : List (Elem × Nat)) (one : Rat)
    (hnd : ∀ x ∈ c, x.1.isos.Pairwise (fun a b => a.shift ≠ b.shift)) (d j : Nat) (hj : j ≤ d) :
    (Spec.aggProb c one d).getD j 0 =
      coeff j (probOf (fun e => isoSeries one e false) c) ∧
    (Spec.aggMass c one d).getD j 0 =
      coeff j (masswOf (fun e => isoSeries one e false) (fun e => isoSeries one e true) c) := by
  have hP : ∀ x ∈ c, P one x.1 = (fun e => isoSeries one e false) x.1 :=
    fun x hx => elemPoly_eq_isoSeries x.1 one false (hnd x hx)
  have hM : ∀ x ∈ c, M one x.1 = (fun e => isoSeries one e true) x.1 :=
    fun x hx => elemPoly_eq_isoSeries x.1 one true (hnd x hx)
  refine ⟨?_, ?_⟩
  · rw [aggProb_closed c one d j hj, ← probOf_congr c hP]
    rfl
  · rw [aggMass_closed c one d j hj, ← masswOf_congr c hP hM]
    rfl

theorem closed_form_dom (c : List (Elem × Nat)) (one : Rat) (hdom : ∀ x ∈ c, Dom x.1)
    (d j : Nat) (hj : j ≤ d) :
    (Spec.aggProb c one d).getD j 0 =
      coeff j (probOf (fun e => isoSeries one e false) c) ∧
    (Spec.aggMass c one d).getD j 0 =
      coeff j (masswOf (fun e => isoSeries one e false) (fun e => isoSeries one e true) c) :=
  closed_form c one (fun x hx => (hdom x hx).shifts_distinct) d j hj

end C03Series
end Chem
