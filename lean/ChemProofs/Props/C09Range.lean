import ChemProofs.Lemmas.BrainSpecPS
import ChemProofs.Lemmas.BrainIso
import ChemProofs.Lemmas.BrainBounds
/-
C09 (mass range) — where the exact centre masses `exCentre j = aggMass j / aggProb j` lie, and when `aggProb j` is positive.
These are statements about the specification's two coefficient lists alone; the generator does not occur in them.

The range is a convex-combination argument on power-series coefficients: every `Mₑ` lies coefficient-wise between `bloₑ·Pₑ` and
`bhiₑ·Pₑ` (`elemM_between`), and Lemmas/BrainBounds.lean carries such a comparison through products (`exMass_between`, with a
slope; slope 0 gives `aggMass_bounds` and `exCentre_in_range`, a slope per neutron the strict increase of Props/C09Strict.lean).
Positivity: over `Dom` elements with positive abundances every coefficient of `∏ Pₑ^nₑ` up to `maxVariants` is positive
(`exProb_pos`).  Props/C03Exact.lean reads both off the returned pattern (`variants_mz_in_range`).
-/
namespace Chem
open PowerSeries C03Series

theorem elemPoly_entry (e : Elem) (one : Rat) (k : Nat) :
    ((Spec.elemPoly e one false).getD k 0 = 0 ∧ (Spec.elemPoly e one true).getD k 0 = 0) ∨
    ∃ i ∈ e.isos, (Spec.elemPoly e one false).getD k 0 = (i.abund : Rat) / one ∧
      (Spec.elemPoly e one true).getD k 0 = (i.mass : Rat) / one * ((i.abund : Rat) / one) := by
  rw [elemPoly_getD, elemPoly_getD]
  by_cases hk : k ≤ Spec.elemSpan e
  · rw [if_pos hk, if_pos hk]
    cases hf : e.isos.find? fun i => i.shift == lo e + Int.ofNat k with
    | none => exact .inl ⟨rfl, rfl⟩
    | some i => exact .inr ⟨i, List.mem_of_find?_eq_some hf, one_mul _, rfl⟩
  · exact .inl ⟨if_neg hk, if_neg hk⟩

theorem elemP_nn (e : Elem) {one : Rat} (hone : 0 ≤ one) (hab : ∀ i ∈ e.isos, 0 ≤ i.abund) :
    0 ≤ P one e := by
  refine coeff_nonneg.2 fun k => ?_
  rw [P, coeff_toPS]
  rcases elemPoly_entry e one k with ⟨h, _⟩ | ⟨i, hi, h, _⟩
  · rw [h]
  · rw [h]
    exact div_nonneg (Rat.intCast_nonneg.2 (hab i hi)) hone

theorem elemM_between (e : Elem) {one : Rat} (hone : 0 ≤ one) (hab : ∀ i ∈ e.isos, 0 ≤ i.abund)
    (blo bhi : Rat) (hlo : ∀ i ∈ e.isos, blo ≤ (i.mass : Rat) / one) (hhi : ∀ i ∈ e.isos, (i.mass : Rat) / one ≤ bhi) :
    C blo * P one e ≤ M one e ∧ M one e ≤ C bhi * P one e := by
  have h : ∀ k, blo * coeff k (P one e) ≤ coeff k (M one e) ∧ coeff k (M one e) ≤ bhi * coeff k (P one e) := by
    intro k
    rw [M, P, coeff_toPS, coeff_toPS]
    rcases elemPoly_entry e one k with ⟨h, h'⟩ | ⟨i, hi, h, h'⟩
    · rw [h, h', mul_zero, mul_zero]
      exact ⟨le_rfl, le_rfl⟩
    · rw [h, h']
      have ha : 0 ≤ (i.abund : Rat) / one := div_nonneg (Rat.intCast_nonneg.2 (hab i hi)) hone
      exact ⟨mul_le_mul_of_nonneg_right (hlo i hi) ha, mul_le_mul_of_nonneg_right (hhi i hi) ha⟩
  exact ⟨fun k => (coeff_C_mul k _ blo).trans_le (h k).1, fun k => (h k).2.trans_eq (coeff_C_mul k _ bhi).symm⟩

theorem exProb_eq_coeff (c : List (Elem × Nat)) (one : Rat) (deg i : Nat) (hi : i ≤ deg) :
    exProb c one deg i = coeff i (probOf (P one) c) := by
  rw [exProb, aggProb_closed c one deg i hi, probSeries_eq_probOf]

theorem exMass_eq_coeff (c : List (Elem × Nat)) (one : Rat) (deg i : Nat) (hi : i ≤ deg) :
    exMass c one deg i = coeff i (masswOf (P one) (M one) c) := by
  rw [exMass, aggMass_closed c one deg i hi, masswSeries_eq_masswOf]

theorem exProb_nonneg (c : List (Elem × Nat)) {one : Rat} (hone : 0 ≤ one)
    (hab : ∀ x ∈ c, ∀ i ∈ x.1.isos, 0 ≤ i.abund) (deg i : Nat) (hi : i ≤ deg) :
    0 ≤ exProb c one deg i := by
  rw [exProb_eq_coeff c one deg i hi]
  exact coeff_nonneg.1 (probOf_nn c fun x hx => elemP_nn x.1 hone (hab x hx)) i

theorem coeff_masswOf_affine (c : List (Elem × Nat)) (one : Rat) (b : Elem → Rat) (d : Rat)
    (deg j : Nat) (hj : j ≤ deg) :
    coeff j (masswOf (P one) (fun e => C (b e) * P one e + C d * Theta (P one e)) c) =
      (massBound b c + d * j) * exProb c one deg j := by
  rw [masswOf_affine, LinearMap.map_add, coeff_C_mul, coeff_C_mul, coeff_Theta, ← mul_assoc, ← add_mul,
    exProb_eq_coeff c one deg j hj]

theorem exMass_between (c : List (Elem × Nat)) {one : Rat} (hone : 0 ≤ one)
    (hab : ∀ x ∈ c, ∀ i ∈ x.1.isos, 0 ≤ i.abund) (blo bhi : Elem → Rat) (dlo dhi : Rat)
    (h : ∀ x ∈ c, C (blo x.1) * P one x.1 + C dlo * Theta (P one x.1) ≤ M one x.1 ∧
      M one x.1 ≤ C (bhi x.1) * P one x.1 + C dhi * Theta (P one x.1))
    (deg j : Nat) (hj : j ≤ deg) :
    (massBound blo c + dlo * j) * exProb c one deg j ≤ exMass c one deg j ∧
      exMass c one deg j ≤ (massBound bhi c + dhi * j) * exProb c one deg j := by
  have hP : ∀ x ∈ c, 0 ≤ P one x.1 := fun x hx => elemP_nn x.1 hone (hab x hx)
  rw [exMass_eq_coeff c one deg j hj, ← coeff_masswOf_affine c one blo dlo deg j hj,
    ← coeff_masswOf_affine c one bhi dhi deg j hj]
  -- `A`, `B` given: left to unification they cost seconds
  exact ⟨masswOf_mono (Pf := P one) (A := fun e => C (blo e) * P one e + C dlo * Theta (P one e)) (B := M one) c hP
      (fun x hx => (h x hx).1) j,
    masswOf_mono (Pf := P one) (A := M one) (B := fun e => C (bhi e) * P one e + C dhi * Theta (P one e)) c hP
      (fun x hx => (h x hx).2) j⟩

theorem aggMass_bounds (c : List (Elem × Nat)) {one : Rat} (hone : 0 ≤ one)
    (hab : ∀ x ∈ c, ∀ i ∈ x.1.isos, 0 ≤ i.abund) (blo bhi : Elem → Rat)
    (hlo : ∀ x ∈ c, ∀ i ∈ x.1.isos, blo x.1 ≤ (i.mass : Rat) / one)
    (hhi : ∀ x ∈ c, ∀ i ∈ x.1.isos, (i.mass : Rat) / one ≤ bhi x.1)
    (deg j : Nat) (hj : j ≤ deg) :
    massBound blo c * exProb c one deg j ≤ exMass c one deg j ∧
      exMass c one deg j ≤ massBound bhi c * exProb c one deg j := by
  -- slope `0` on both sides
  have h := exMass_between c hone hab blo bhi 0 0 (fun x hx => by
    rw [RingHom.map_zero, zero_mul, add_zero, add_zero]
    exact elemM_between x.1 hone (hab x hx) _ _ (hlo x hx) (hhi x hx)) deg j hj
  rwa [zero_mul, add_zero, add_zero] at h

theorem div_between {p m A B : Rat} (hp : 0 < p) (h : A * p ≤ m ∧ m ≤ B * p) : A ≤ m / p ∧ m / p ≤ B :=
  ⟨(le_div_iff₀ hp).2 h.1, (div_le_iff₀ hp).2 h.2⟩

/-- **C09, mass range**: the centre mass of every variant with positive probability lies between
    `Σ nₑ · bloₑ` and `Σ nₑ · bhiₑ` (a convex combination of isotopologue masses) -/
theorem exCentre_in_range (c : List (Elem × Nat)) {one : Rat} (hone : 0 ≤ one)
    (hab : ∀ x ∈ c, ∀ i ∈ x.1.isos, 0 ≤ i.abund) (blo bhi : Elem → Rat)
    (hlo : ∀ x ∈ c, ∀ i ∈ x.1.isos, blo x.1 ≤ (i.mass : Rat) / one)
    (hhi : ∀ x ∈ c, ∀ i ∈ x.1.isos, (i.mass : Rat) / one ≤ bhi x.1)
    (deg j : Nat) (hj : j ≤ deg) (hp : 0 < exProb c one deg j) :
    massBound blo c ≤ exCentre c one deg j ∧ exCentre c one deg j ≤ massBound bhi c :=
  div_between hp (aggMass_bounds c hone hab blo bhi hlo hhi deg j hj)

/-- mass of the first (lightest, when the masses increase) tabulated isotope -/
def lightest (e : Elem) : Int := (e.isos.head?.map (·.mass)).getD 0
/-- mass of the last (heaviest, when the masses increase) tabulated isotope -/
def heaviest (e : Elem) : Int := (e.isos.getLast?.map (·.mass)).getD 0

theorem lightest_le (e : Elem) (hinc : e.isos.Pairwise (fun a b => a.mass ≤ b.mass)) :
    ∀ i ∈ e.isos, lightest e ≤ i.mass := by
  intro i hi
  rw [lightest, List.head?_eq_some_head (List.ne_nil_of_mem hi)]
  exact hinc.rel_head_of_rel_head_head hi le_rfl

theorem le_heaviest (e : Elem) (hinc : e.isos.Pairwise (fun a b => a.mass ≤ b.mass)) :
    ∀ i ∈ e.isos, i.mass ≤ heaviest e := by
  intro i hi
  rw [heaviest, List.getLast?_eq_some_getLast (List.ne_nil_of_mem hi)]
  exact hinc.rel_getLast_of_rel_getLast_getLast hi le_rfl

/-- **mass range, tabulated form**: with isotope masses listed in increasing order, the centre mass
    of every variant with positive probability lies between `Σ nₑ·(lightest isotope of e)` and
    `Σ nₑ·(heaviest isotope of e)` -/
theorem exCentre_in_range_sorted (c : List (Elem × Nat)) {one : Rat} (hone : 0 ≤ one)
    (hab : ∀ x ∈ c, ∀ i ∈ x.1.isos, 0 ≤ i.abund)
    (hinc : ∀ x ∈ c, x.1.isos.Pairwise (fun a b => a.mass ≤ b.mass))
    (deg j : Nat) (hj : j ≤ deg) (hp : 0 < exProb c one deg j) :
    massBound (fun e => (lightest e : Rat) / one) c ≤ exCentre c one deg j ∧
      exCentre c one deg j ≤ massBound (fun e => (heaviest e : Rat) / one) c := by
  apply exCentre_in_range c hone hab _ _ _ _ deg j hj hp
  · intro x hx i hi
    exact div_le_div_of_nonneg_right (Rat.intCast_le_intCast.2 (lightest_le x.1 (hinc x hx) i hi)) hone
  · intro x hx i hi
    exact div_le_div_of_nonneg_right (Rat.intCast_le_intCast.2 (le_heaviest x.1 (hinc x hx) i hi)) hone

theorem massBound_lightest (c : List (Elem × Nat)) (one : Rat)
    (hmm : ∀ x ∈ c, x.1.isos.head?.map (·.mass) = some x.1.mostMass) :
    massBound (fun e => (lightest e : Rat) / one) c = monoMassOf (toB c) one := by
  unfold massBound monoMassOf toB
  rw [List.map_map]
  congr 1
  apply List.map_congr_left
  intro x hx
  simp only [Function.comp, lightest, hmm x hx, Option.getD_some, Int.cast_natCast]
  exact mul_comm _ _

theorem elemP_pos {e : Elem} (h : Dom e) {one : Rat} (hone : 0 < one) (hab : ∀ i ∈ e.isos, 0 < i.abund) :
    PosUpTo (e.isos.length - 1) (P one e) := by
  refine ⟨elemP_nn e (le_of_lt hone) fun i hi => le_of_lt (hab i hi), ?_⟩
  intro k hk
  have hk' : k < e.isos.length := Nat.lt_of_le_sub_one h.length_pos hk
  rw [P, coeff_toPS, elemPoly_of_dom h, List.getD_eq_getElem _ _ (by rwa [List.length_map])]
  simp only [List.getElem_map, isoCoeff, Bool.false_eq_true, if_false, one_mul]
  exact div_pos (Rat.intCast_pos.2 (hab _ (List.getElem_mem hk'))) hone

theorem probOf_pos (c : List (Elem × Nat)) {one : Rat} (hone : 0 < one) (hdom : ∀ x ∈ c, Dom x.1)
    (hab : ∀ x ∈ c, ∀ i ∈ x.1.isos, 0 < i.abund) : PosUpTo (spanVariants c) (probOf (P one) c) := by
  induction c with
  | nil =>
    rw [probOf_nil]
    exact PosUpTo.one
  | cons x c ih =>
    rw [probOf_cons, spanVariants, List.map_cons, List.sum_cons, ← spanVariants]
    exact ((elemP_pos (hdom x List.mem_cons_self) hone (hab x List.mem_cons_self)).pow _).mul
      (ih (fun y hy => hdom y (List.mem_cons_of_mem _ hy)) fun y hy => hab y (List.mem_cons_of_mem _ hy))

theorem exProb_pos (c : List (Elem × Nat)) {one : Rat} (hone : 0 < one) (hdom : ∀ x ∈ c, Dom x.1)
    (hab : ∀ x ∈ c, ∀ i ∈ x.1.isos, 0 < i.abund) (deg j : Nat) (hj : j ≤ deg)
    (hjV : (j : Int) ≤ maxVariants (toB c)) : 0 < exProb c one deg j := by
  rw [exProb_eq_coeff c one deg j hj]
  exact (probOf_pos c hone hdom hab).2 j (Int.ofNat_le.1 (hjV.trans_eq (spanVariants_eq c hdom).symm))

theorem exTotal_pos (c : List (Elem × Nat)) {one : Rat} (hone : 0 < one) (hdom : ∀ x ∈ c, Dom x.1)
    (hab : ∀ x ∈ c, ∀ i ∈ x.1.isos, 0 < i.abund) (deg : Nat) : 0 < exTotal c one deg := by
  -- the total is at least its first summand
  refine lt_of_lt_of_le (exProb_pos c hone hdom hab deg 0 (Nat.zero_le _) (maxVariants_toB_nonneg c hdom)) ?_
  refine List.single_le_sum (fun v hv => ?_) _ (List.mem_map_of_mem (List.mem_range.2 (Nat.succ_pos _)))
  obtain ⟨j, hj, rfl⟩ := List.mem_map.1 hv
  exact exProb_nonneg c hone.le (fun x hx i hi => (hab x hx i hi).le) deg j (Nat.le_of_lt_succ (List.mem_range.1 hj))

end Chem
