import ChemProofs.Spec.Grammar
import ChemProofs.Lemmas.Ents
import ChemProofs.Lemmas.Digits
import ChemProofs.Lemmas.Pend
/-
C01 — a well-formed formula parses to exactly what it denotes (`parse_render`, `parse_render_nodup`; `parseA_ok`: any
fuel exceeding the length of the text suffices), for the full grammar: elements with optional isotope and count,
arbitrarily nested groups with optional count.  Core Lean only.

Two deviations from the property text in the hypotheses `SymbolsOK cc T` and `WF T ts`, both forced by
counterexamples:
  (a) `)` must be excluded from symbol tails: with a symbol `A)` the text `(A))` is cut at the first `)`;
  (b) the table holds the electron `e*`, which the parser can never read (a lower-case first character is an error in
      state `New`): the upper-case-initial requirement sits in `WF`, and `SymbolsOK` only speaks about such symbols.
Both are checkable: `SymbolsOK` is decidable, `WF` through `wfTermsB_iff`, and `symbolsOK_of_ascii` derives
`SymbolsOK cc T` for every ASCII-correct `cc` from a `cc`-free Boolean check of the table (`Inst/C01.lean`).

The proof is over the parser on pieces `arun` of `Lemmas/Pend.lean`, which the machine is on every text
(`parseA_succ`).  The first character of a term starts its pieces, the others complete them to `pendOf t`
(`term_run`); the body of a group is skipped on the machine itself, which only counts parentheses (`skip_terms`,
carried over to `arun` by `arun_skip`).  The completed pieces are flushed by the first character of the next term or by
the end of input, and the flush adds exactly the term's denotation (`term_close`).
-/
namespace Chem
open Spec

/-- shape of a table symbol: an ASCII upper-case letter followed by characters that are inert for the
    machine (`inert`, `Lemmas/PStep.lean`: not ASCII-upper-case, not `cc.numeric`, not `[`, `(`, `)`) -/
def symShape (cc : CharClass) : Sym → Bool
  | [] => false
  | c :: rest => isAsciiUpper c && rest.all (inert cc)

/-- does the symbol begin with an ASCII upper-case letter? (the table also holds the electron, `e*`) -/
def isUpperHead : Sym → Bool
  | [] => false
  | c :: _ => isAsciiUpper c

/-- every element of the table whose symbol begins with an upper-case letter is stored under its own
    symbol, and that symbol is well shaped -/
def SymbolsOK (cc : CharClass) (T : Table) : Prop :=
  ∀ e ∈ T, isUpperHead e.sym = true → T.find? e.sym = some e ∧ symShape cc e.sym = true

instance (cc : CharClass) (T : Table) : Decidable (SymbolsOK cc T) := by
  unfold SymbolsOK; exact inferInstance

def countOK : Option Nat → Prop
  | none => True
  | some n => n ≤ 2147483647

def isoOK (e : Elem) : Option Nat → Prop
  | none => True
  | some i => i ≠ 0 ∧ i ≤ 65535 ∧ (e.iso? i).isSome = true

mutual
  def WFt (T : Table) : Term → Prop
    | .elem sym iso cnt =>
      (match T.find? sym with
        | some e => e.sym = sym ∧ isUpperHead sym = true ∧ isoOK e iso
        | none => False) ∧ countOK cnt
    | .group body cnt => body ≠ .nil ∧ WF T body ∧ countOK cnt
  def WF (T : Table) : Terms → Prop
    | .nil => True
    | .cons t ts => WFt T t ∧ WF T ts
end

theorem wft_elem {T : Table} {sym : Sym} {iso cnt : Option Nat} (h : WFt T (.elem sym iso cnt)) :
    ∃ e, T.find? sym = some e ∧ e.sym = sym ∧ isUpperHead sym = true ∧ isoOK e iso ∧ countOK cnt := by
  simp only [WFt] at h
  cases hf : T.find? sym with
  | none => rw [hf] at h; exact h.1.elim
  | some e => rw [hf] at h; exact ⟨e, rfl, h.1.1, h.1.2.1, h.1.2.2, h.2⟩

theorem wft_group {T : Table} {body : Terms} {cnt : Option Nat} (h : WFt T (.group body cnt)) :
    body ≠ .nil ∧ WF T body ∧ countOK cnt := by
  simpa only [WFt] using h

theorem wf_cons {T : Table} {t : Term} {ts : Terms} (h : WF T (.cons t ts)) : WFt T t ∧ WF T ts := by
  simpa only [WF] using h

/-- `acc'` is `acc` with the contribution `d` added, touching only keys of `m` -/
structure Ext (acc : Ents) (d : Key → Int) (m : List Key) (acc' : Ents) : Prop where
  nodup : acc'.NoDupKeys
  get : ∀ k, acc'.get k = acc.get k + d k
  keys : ∀ k ∈ acc'.keys, k ∈ acc.keys ∨ k ∈ m

theorem Ext.trans {a b c : Ents} {d1 d2 : Key → Int} {m1 m2 : List Key}
    (h1 : Ext a d1 m1 b) (h2 : Ext b d2 m2 c) : Ext a (fun k => d1 k + d2 k) (m1 ++ m2) c := by
  refine ⟨h2.nodup, fun k => ?_, fun k hk => ?_⟩
  · rw [h2.get, h1.get, Int.add_assoc]
  · rcases h2.keys k hk with h | h
    · rcases h1.keys k h with h | h
      · exact Or.inl h
      · exact Or.inr (List.mem_append_left _ h)
    · exact Or.inr (List.mem_append_right _ h)

theorem ext_inc (acc : Ents) (key : Key) (v : Int) (h : acc.NoDupKeys) :
    Ext acc (fun k => if k = key then v else 0) [key] (acc.inc key v) :=
  ⟨Ents.nodup_inc acc key v h, fun k => Ents.get_inc acc key v k, fun k hk => by
    simpa using (Ents.mem_keys_set acc key _ k).1 hk⟩

theorem ext_addFrom (acc g : Ents) (ha : acc.NoDupKeys) (hg : g.NoDupKeys) :
    Ext acc (fun k => g.get k) g.keys (acc.addFrom g 1) := by
  refine ⟨Ents.nodup_addFrom acc g 1 ha, fun k => ?_, fun k => (Ents.mem_keys_addFrom acc g 1 k).1⟩
  rw [Ents.get_addFrom, Ents.sumFor_nodup g k hg, Int.one_mul]

theorem Ext.keys_of_nil {d : Key → Int} {m : List Key} {acc' : Ents} (h : Ext [] d m acc') {k : Key}
    (hk : k ∈ acc'.keys) : k ∈ m :=
  (h.keys k hk).resolve_left List.not_mem_nil

def SubOK (sub : List Nat → Res Ents) (b : Terms) : Prop :=
  ∃ g, sub b.render = .ok g ∧ Ext [] b.denote b.mentioned g

def isoR : Option Nat → List Nat
  | none => []
  | some i => 91 :: (natDigits i ++ [93])

theorem render_elem (sym : Sym) (iso cnt : Option Nat) :
    (Term.elem sym iso cnt).render = sym ++ (isoR iso ++ renderCount cnt) := by
  unfold Term.render
  rw [List.append_assoc]
  cases iso <;> rfl

theorem render_group (body : Terms) (cnt : Option Nat) :
    (Term.group body cnt).render = 40 :: (body.render ++ 41 :: renderCount cnt) := by
  simp [Term.render]

theorem render_cons (t : Term) (ts : Terms) : (Terms.cons t ts).render = t.render ++ ts.render := by
  simp [Terms.render]

theorem render_nil : Terms.nil.render = [] := by simp [Terms.render]

theorem symShape_cons {cc : CharClass} {sym : Sym} (h : symShape cc sym = true) :
    ∃ c0 symtl, sym = c0 :: symtl ∧ isAsciiUpper c0 = true ∧ ∀ c ∈ symtl, inert cc c = true := by
  cases sym with
  | nil => simp [symShape] at h
  | cons c0 symtl =>
    simp only [symShape, Bool.and_eq_true, List.all_eq_true] at h
    exact ⟨c0, symtl, rfl, h.1, h.2⟩

theorem elem_facts {cc : CharClass} {T : Table} (hT : SymbolsOK cc T) {sym : Sym} {iso cnt : Option Nat}
    (h : WFt T (.elem sym iso cnt)) :
    ∃ e c0 symtl, T.find? sym = some e ∧ e.sym = sym ∧ isoOK e iso ∧ countOK cnt ∧
      sym = c0 :: symtl ∧ isAsciiUpper c0 = true ∧ ∀ c ∈ symtl, inert cc c = true := by
  obtain ⟨e, hf, hsym, hhead, hiso, hcnt⟩ := wft_elem h
  have hsh := (hT e (List.mem_of_find?_eq_some hf) (by rw [hsym]; exact hhead)).2
  rw [hsym] at hsh
  obtain ⟨c0, symtl, h1, h2, h3⟩ := symShape_cons hsh
  exact ⟨e, c0, symtl, hf, hsym, hiso, hcnt, h1, h2, h3⟩

theorem renderCount_digits (cnt : Option Nat) : ∀ c ∈ renderCount cnt, isAsciiDigit c = true := by
  intro c hc
  cases cnt with
  | none => simp [renderCount] at hc
  | some n => exact natDigits_all_digit n c hc

theorem term_starts {cc : CharClass} {T : Table} (hT : SymbolsOK cc T) (t : Term) (hwf : WFt T t) :
    ∃ c tl, t.render = c :: tl ∧ Starts c := by
  cases t with
  | elem sym iso cnt =>
    obtain ⟨e, c0, symtl, _, _, _, _, hs0, hup, _⟩ := elem_facts hT hwf
    refine ⟨c0, symtl ++ (isoR iso ++ renderCount cnt), ?_, Or.inl (isUpperStart_of_upper hup)⟩
    rw [render_elem, hs0]
    rfl
  | group body cnt => exact ⟨40, _, render_group body cnt, Or.inr rfl⟩

theorem terms_starts {cc : CharClass} {T : Table} (hT : SymbolsOK cc T) (ts : Terms) (hne : ts ≠ .nil)
    (hwf : WF T ts) : ∃ c tl, ts.render = c :: tl ∧ Starts c := by
  cases ts with
  | nil => exact absurd rfl hne
  | cons t ts' =>
    obtain ⟨c, tl, hr, hc⟩ := term_starts hT t (wf_cons hwf).1
    exact ⟨c, tl ++ ts'.render, by rw [render_cons, hr]; rfl, hc⟩

theorem isoR_flat (iso : Option Nat) : ∀ c ∈ isoR iso, c ≠ 40 ∧ c ≠ 41 := by
  intro c hc
  cases iso with
  | none => simp [isoR] at hc
  | some k =>
    simp only [isoR, List.mem_cons, List.mem_append, List.not_mem_nil, or_false] at hc
    rcases hc with rfl | h | rfl
    · decide
    · exact (digit_facts (natDigits_all_digit k c h)).2.2
    · decide

theorem renderCount_flat (cnt : Option Nat) : ∀ c ∈ renderCount cnt, c ≠ 40 ∧ c ≠ 41 := fun c hc =>
  (digit_facts (renderCount_digits cnt c hc)).2.2

theorem elem_flat {cc : CharClass} {T : Table} (hT : SymbolsOK cc T) {sym : Sym} {iso cnt : Option Nat}
    (hwf : WFt T (.elem sym iso cnt)) : ∀ c ∈ (Term.elem sym iso cnt).render, c ≠ 40 ∧ c ≠ 41 := by
  obtain ⟨e, c0, symtl, hf, hsym, hiso, hcnt, hs0, hup, hin⟩ := elem_facts hT hwf
  intro c hc
  rw [render_elem, hs0] at hc
  simp only [List.mem_cons, List.mem_append] at hc
  rcases hc with (h | h) | h | h
  · subst h
    have := upperStart_facts (isUpperStart_of_upper hup)
    exact ⟨this.2.2.1, this.2.2.2⟩
  · have := hin c h
    simp only [inert, Bool.and_eq_true, bne_iff_ne, ne_eq] at this
    exact ⟨this.1.2, this.2⟩
  · exact isoR_flat iso c h
  · exact renderCount_flat cnt c h

section
variable (cc : CharClass) (T : Table) (hT : SymbolsOK cc T)
  (sub : List Nat → Res Ents) (s : List Nat)
include hT

-- the linter does not see that `skip_terms` hands `hT` on to `skip_term`
set_option linter.unusedSectionVars false in
mutual
  theorem skip_term : (t : Term) → WFt T t → ∀ (i : Nat) (p : PState) (acc : Ents),
      p.st = .group → 1 ≤ p.paren → ploop cc T sub s t.render i p acc = .ok (p, acc)
    | .elem sym iso cnt, hwf, i, p, acc, hst, _ =>
      ploop_group_flat i hst (elem_flat hT hwf)
    | .group body cnt, hwf, i, p, acc, hst, hp => by
      obtain ⟨_, hwfb, _⟩ := wft_group hwf
      rw [render_group, ploop_cons_ok (step_group_open i hst),
        ploop_append_ok
          (skip_terms body hwfb (i + 1) { p with paren := p.paren + 1 } acc hst
            (by show 1 ≤ p.paren + 1; omega)),
        ploop_cons_ok (step_group_close_ne (p := { p with paren := p.paren + 1 }) (d := p.paren) _ hst
            (Int.add_sub_cancel _ 1) (by omega))]
      exact ploop_group_flat _ hst (renderCount_flat cnt)
  theorem skip_terms : (ts : Terms) → WF T ts → ∀ (i : Nat) (p : PState) (acc : Ents),
      p.st = .group → 1 ≤ p.paren → ploop cc T sub s ts.render i p acc = .ok (p, acc)
    | .nil, _, i, p, acc, _, _ => by
      rw [render_nil]
      rfl
    | .cons t ts, hwf, i, p, acc, hst, hp => by
      rw [render_cons, ploop_append_ok (skip_term t (wf_cons hwf).1 i p acc hst hp)]
      exact skip_terms ts (wf_cons hwf).2 _ p acc hst hp
end

end

section
variable {cc : CharClass} {T : Table} {sub : List Nat → Res Ents}

/-- the pieces of a completely read term -/
def pendOf : Term → Pend
  | .elem sym iso cnt =>
    match cnt with
    | none => (match iso with
      | none => .sym sym
      | some k => .isoDone sym (natDigits k))
    | some n => .count sym (iso.map natDigits) (natDigits n)
  | .group body cnt =>
    match cnt with
    | none => .grpDone body.render
    | some n => .grpCount body.render (natDigits n)

theorem pendOf_push_starts (hcc : cc.AsciiOK) {c : Nat} (hc : Starts c) (t : Term) : (pendOf t).push cc c = none := by
  have hn := starts_not_numeric hcc hc
  rcases t with ⟨sym, _ | k, _ | n⟩ | ⟨body, _ | n⟩
  · exact Pend.push_sym_starts hcc hc sym
  all_goals simp [pendOf, Pend.push, hn]

theorem optDigits_run (cnt : Option Nat) {p : Pend} {q : List Nat → Pend}
    (hfirst : ∀ d, isAsciiDigit d = true → p.push cc d = some (q [d]))
    (hstay : ∀ x d, isAsciiDigit d = true → (q x).push cc d = some (q (x ++ [d]))) (rest : List Nat) (acc : Ents) :
    arun cc T sub (renderCount cnt ++ rest) p acc =
      arun cc T sub rest (match cnt with | none => p | some n => q (natDigits n)) acc := by
  cases cnt with
  | none => rfl
  | some n => exact arun_digits hfirst hstay (natDigits_all_digit n) (natDigits_ne_nil n) rest acc

theorem iso_run (hcc : cc.AsciiOK) (w : List Nat) (iso : Option Nat) (rest : List Nat) (acc : Ents) :
    arun cc T sub (isoR iso ++ rest) (.sym w) acc =
      arun cc T sub rest (match iso with | none => .sym w | some k => .isoDone w (natDigits k)) acc := by
  cases iso with
  | none => rfl
  | some k =>
    simp only [isoR, List.cons_append, List.append_assoc]
    exact arun_bracket hcc (natDigits_all_digit k) rest acc

theorem elem_run (hcc : cc.AsciiOK) {c0 : Nat} {symtl : List Nat} (hin : ∀ c ∈ symtl, inert cc c = true)
    (iso cnt : Option Nat) (rest : List Nat) (acc : Ents) :
    arun cc T sub (symtl ++ (isoR iso ++ renderCount cnt) ++ rest) (.sym [c0]) acc =
      arun cc T sub rest (pendOf (.elem (c0 :: symtl) iso cnt)) acc := by
  rw [List.append_assoc, arun_run (f := fun x => .sym (c0 :: x)) (fun x c hc => Pend.push_sym_inert (hin c hc)) [],
    List.append_assoc, iso_run hcc]
  cases iso <;> exact optDigits_run cnt (fun _ => Pend.push_digit hcc) (fun _ _ => Pend.push_digit hcc) rest acc

/-- The state of a pending group does not show its body, and the body of a well-formed group leaves the state as it
    is: back on the machine (`run_eq_nil` from right to left), `skip_terms`, and forth again. -/
theorem arun_skip (hT : SymbolsOK cc T) {body : Terms} (hwfb : WF T body) (b rest : List Nat) (acc : Ents) :
    arun cc T sub (body.render ++ rest) (.grp b 1) acc = arun cc T sub rest (.grp (b ++ body.render) 1) acc := by
  have ht : (Pend.grp (b ++ body.render) 1).text = (Pend.grp b 1).text ++ body.render := rfl
  rw [← run_eq_nil (pd := .grp b 1) rfl, ← run_eq_nil (pd := .grp (b ++ body.render) 1) (by rw [ht, List.append_assoc]),
    ploop_append_ok (skip_terms cc T hT sub _ body hwfb _ _ acc rfl (Int.le_refl 1)), ht, List.length_append]
  rfl

theorem group_run (hcc : cc.AsciiOK) (hT : SymbolsOK cc T) {body : Terms} (hwfb : WF T body) (cnt : Option Nat)
    (rest : List Nat) (acc : Ents) :
    arun cc T sub (body.render ++ 41 :: renderCount cnt ++ rest) (.grp [] 1) acc =
      arun cc T sub rest (pendOf (.group body cnt)) acc := by
  have h41 : (Pend.grp body.render 1).push cc 41 = some (.grpDone body.render) := rfl
  rw [List.append_assoc, arun_skip hT hwfb, List.nil_append, List.cons_append, arun_push h41]
  exact optDigits_run cnt (fun _ => Pend.push_digit hcc) (fun _ _ => Pend.push_digit hcc) rest acc

theorem term_run (hcc : cc.AsciiOK) (hT : SymbolsOK cc T) (t : Term) (hwf : WFt T t) (rest : List Nat) (acc : Ents) :
    arun cc T sub (t.render ++ rest) .new acc = arun cc T sub rest (pendOf t) acc := by
  cases t with
  | elem sym iso cnt =>
    obtain ⟨e, c0, symtl, -, -, -, -, rfl, hup, hin⟩ := elem_facts hT hwf
    rw [render_elem, List.cons_append, List.cons_append, arun_push (pd := .new) (Pend.start_upper hup)]
    exact elem_run hcc hin iso cnt rest acc
  | group body cnt =>
    rw [render_group, List.cons_append, arun_push (pd := .new) (pd' := .grp [] 1) rfl]
    exact group_run hcc hT (wft_group hwf).2.1 cnt rest acc

theorem ext_group (acc g : Ents) (body : Terms) (cnt : Option Nat) (m : Int)
    (hm : m = ((cnt.getD 1 : Nat) : Int)) (hacc : acc.NoDupKeys)
    (hg : Ext [] body.denote body.mentioned g) :
    Ext acc (Term.group body cnt).denote (Term.group body cnt).mentioned
      (acc.addFrom (g.mapCounts (m * ·)) 1) := by
  have h := ext_addFrom acc (g.mapCounts (m * ·)) hacc (Ents.nodup_mapCounts g _ hg.nodup)
  refine ⟨h.nodup, ?_, ?_⟩
  · intro k
    rw [h.get, Ents.get_mapCounts_mul, hg.get]
    simp only [Term.denote, Ents.get_nil, Int.zero_add, hm]
  · intro k hk
    rcases h.keys k hk with h1 | h1
    · exact Or.inl h1
    · rw [Ents.keys_mapCounts] at h1
      exact Or.inr (by simpa only [Term.mentioned] using hg.keys_of_nil h1)

theorem elem_close {sym : Sym} {iso cnt : Option Nat} (hwf : WFt T (.elem sym iso cnt)) (acc : Ents) :
    (pendOf (.elem sym iso cnt)).close T sub acc = .ok (acc.inc (sym, iso.getD 0) ((cnt.getD 1 : Nat) : Int)) := by
  obtain ⟨e, hf, hsym, -, hiso, hcnt⟩ := wft_elem hwf
  subst hsym
  cases cnt with
  | none =>
    cases iso with
    | none => simp only [pendOf, Pend.close, hf, Res.ofOpt, Res.ok_bind]; rfl
    | some k =>
      simp only [pendOf, Pend.close, hf, Res.ofOpt, Res.ok_bind, parseU16_natDigits k hiso.2.1, mkKey_iso e k hiso.2.2]
      rfl
  | some n =>
    cases iso with
    | none =>
      simp only [pendOf, Pend.close, hf, Res.ofOpt, Res.ok_bind, parseI32_natDigits n hcnt, Option.map_none, Pend.isoNum,
        mkKey_zero]
      rfl
    | some k =>
      simp only [pendOf, Pend.close, hf, Res.ofOpt, Res.ok_bind, parseI32_natDigits n hcnt, Option.map_some, Pend.isoNum,
        if_neg (natDigits_ne_nil k), parseU16_natDigits k hiso.2.1, mkKey_iso e k hiso.2.2]
      rfl

theorem group_close {body : Terms} {cnt : Option Nat} (hcnt : countOK cnt) {acc : Ents} (hacc : acc.NoDupKeys)
    (hsub : SubOK sub body) :
    ∃ acc', (pendOf (.group body cnt)).close T sub acc = .ok acc' ∧
      Ext acc (Term.group body cnt).denote (Term.group body cnt).mentioned acc' := by
  obtain ⟨g, hgs, hext⟩ := hsub
  cases cnt with
  | none =>
    refine ⟨acc.addFrom g 1, by simp only [pendOf, Pend.close, hgs, Res.ok_bind], ?_⟩
    simpa only [Ents.mapCounts_one] using ext_group acc g body none 1 rfl hacc hext
  | some n =>
    exact ⟨_, by simp only [pendOf, Pend.close, hgs, Res.ok_bind, parseI32_natDigits n hcnt, Res.ofOpt],
      ext_group acc g body (some n) n rfl hacc hext⟩

theorem term_close (t : Term) (hwf : WFt T t) {acc : Ents} (hacc : acc.NoDupKeys)
    (hsub : ∀ b cnt, t = .group b cnt → SubOK sub b) :
    ∃ acc', (pendOf t).close T sub acc = .ok acc' ∧ Ext acc t.denote t.mentioned acc' := by
  cases t with
  | elem sym iso cnt => exact ⟨_, elem_close hwf acc, ext_inc acc _ _ hacc⟩
  | group body cnt => exact group_close (wft_group hwf).2.2 hacc (hsub body cnt rfl)

/-- induction along a list of terms that does not descend into the terms -/
theorem Terms.spine {P : Terms → Prop} (nil : P .nil) (cons : ∀ t ts, P ts → P (.cons t ts)) : ∀ ts, P ts
  | .nil => nil
  | .cons t ts => cons t ts (Terms.spine nil cons ts)

/-- the parser on pieces adds exactly the denotation of `ts` -/
theorem level (hcc : cc.AsciiOK) (hT : SymbolsOK cc T) {N : Nat}
    (hsub : ∀ b, b ≠ .nil → WF T b → b.render.length + 2 ≤ N → SubOK sub b) (ts : Terms) :
    ts ≠ .nil → WF T ts → ts.render.length ≤ N → ∀ (acc : Ents), acc.NoDupKeys →
      ∃ ents, arun cc T sub ts.render .new acc = .ok ents ∧ Ext acc ts.denote ts.mentioned ents := by
  induction ts using Terms.spine with
  | nil => exact fun hne => absurd rfl hne
  | cons t ts' ih =>
    intro _ hwf hN acc hacc
    obtain ⟨hwt, hwts⟩ := wf_cons hwf
    rw [render_cons, List.length_append] at hN
    obtain ⟨acc1, hcl, hext1⟩ := term_close (sub := sub) t hwt hacc fun b cnt ht => by
      subst ht
      refine hsub b (wft_group hwt).1 (wft_group hwt).2.1 ?_
      rw [render_group] at hN
      simp only [List.length_append, List.length_cons] at hN
      omega
    have hext : ∀ {ents}, Ext acc1 ts'.denote ts'.mentioned ents →
        Ext acc (Terms.cons t ts').denote (Terms.cons t ts').mentioned ents := fun h => by
      simpa only [Terms.denote, Terms.mentioned] using hext1.trans h
    rw [render_cons, term_run hcc hT t hwt]
    cases ts' with
    | nil =>
      refine ⟨acc1, by rw [render_nil]; exact hcl, hext ?_⟩
      exact ⟨hext1.nodup, fun k => by simp [Terms.denote], fun k hk => Or.inl hk⟩
    | cons t2 ts2 =>
      obtain ⟨c2, tl2, hr2, hst2⟩ := terms_starts hT (.cons t2 ts2) (fun h => nomatch h) hwts
      obtain ⟨ents, hrun2, hext2⟩ :=
        ih (fun h => nomatch h) hwts (by omega) acc1 hext1.nodup
      refine ⟨ents, ?_, hext hext2⟩
      -- the first character of the next term flushes the completed pieces of `t` and starts the next pieces
      rw [hr2] at hrun2 ⊢
      rw [arun_flush_new (pendOf_push_starts hcc hst2 t) hcl]
      exact hrun2

end

/-- C01 with the recursion budget explicit (the model gives the recursive parse of group bodies fuel): any fuel above the
    length of the text suffices; `Ext []` is counts as denoted, only mentioned keys, distinct keys. -/
theorem parseA_ok (cc : CharClass) (hcc : cc.AsciiOK) (T : Table) (hT : SymbolsOK cc T) :
    ∀ (fuel : Nat) (ts : Terms), ts ≠ .nil → WF T ts → ts.render.length < fuel →
      ∃ ents, parseA cc T fuel ts.render = .ok ents ∧ Ext [] ts.denote ts.mentioned ents := by
  intro fuel
  induction fuel with
  | zero => intro ts _ _ h; omega
  | succ fuel ih =>
    intro ts hne hwf hlen
    rw [parseA_succ]
    exact level hcc hT (sub := parseA cc T fuel) (N := ts.render.length) (fun b hb hwb hl => ih b hb hwb (by omega))
      ts hne hwf (Nat.le_refl _) [] Ents.nodup_nil

/-- **C01**: `parse_formula_with_table_generic` accepts the text of every non-empty well-formed term list; the composition
    it returns gives every key the count the formula denotes, and has no key the formula does not mention. -/
theorem parse_render (cc : CharClass) (hcc : cc.AsciiOK) (T : Table) (hT : SymbolsOK cc T) (ts : Spec.Terms)
    (hne : ts ≠ .nil) (hwf : WF T ts) :
    ∃ ents, parseFormula cc T (ts.render) = .ok ents ∧ (∀ k, ents.get k = ts.denote k) ∧
            (∀ k ∈ ents.keys, k ∈ ts.mentioned) := by
  obtain ⟨ents, h, hext⟩ := parseA_ok cc hcc T hT (ts.render.length + 1) ts hne hwf (Nat.lt_succ_self _)
  exact ⟨ents, h, fun k => by rw [hext.get, Ents.get_nil, Int.zero_add], fun k => hext.keys_of_nil⟩

theorem parse_render_nodup (cc : CharClass) (hcc : cc.AsciiOK) (T : Table) (hT : SymbolsOK cc T)
    (ts : Spec.Terms) (hne : ts ≠ .nil) (hwf : WF T ts) :
    ∃ ents, parseFormula cc T (ts.render) = .ok ents ∧ ents.NoDupKeys := by
  obtain ⟨ents, h, hext⟩ := parseA_ok cc hcc T hT (ts.render.length + 1) ts hne hwf (Nat.lt_succ_self _)
  exact ⟨ents, h, hext.nodup⟩

def countOKB : Option Nat → Bool
  | none => true
  | some n => decide (n ≤ 2147483647)

def isoOKB (e : Elem) : Option Nat → Bool
  | none => true
  | some i => i != 0 && decide (i ≤ 65535) && (e.iso? i).isSome

def isNilB : Terms → Bool
  | .nil => true
  | .cons _ _ => false

mutual
  def wfTermB (T : Table) : Term → Bool
    | .elem sym iso cnt =>
      (match T.find? sym with
        | some e => e.sym == sym && isUpperHead sym && isoOKB e iso
        | none => false) && countOKB cnt
    | .group body cnt => !isNilB body && wfTermsB T body && countOKB cnt
  def wfTermsB (T : Table) : Terms → Bool
    | .nil => true
    | .cons t ts => wfTermB T t && wfTermsB T ts
end

theorem countOKB_iff (c : Option Nat) : countOKB c = true ↔ countOK c := by
  cases c <;> simp [countOKB, countOK]

theorem isoOKB_iff (e : Elem) (i : Option Nat) : isoOKB e i = true ↔ isoOK e i := by
  cases i <;> simp [isoOKB, isoOK, and_assoc]

theorem isNilB_iff (b : Terms) : isNilB b = false ↔ b ≠ .nil := by
  cases b <;> simp [isNilB]

mutual
  theorem wfTermB_iff (T : Table) : (t : Term) → (wfTermB T t = true ↔ WFt T t)
    | .elem sym iso cnt => by
      simp only [wfTermB, WFt, Bool.and_eq_true, countOKB_iff]
      cases T.find? sym with
      | none => simp
      | some e => simp only [Bool.and_eq_true, beq_iff_eq, isoOKB_iff, and_assoc]
    | .group body cnt => by
      simp only [wfTermB, WFt, Bool.and_eq_true, countOKB_iff, Bool.not_eq_true', isNilB_iff,
        wfTermsB_iff T body, and_assoc]
  theorem wfTermsB_iff (T : Table) : (ts : Terms) → (wfTermsB T ts = true ↔ WF T ts)
    | .nil => by simp [wfTermsB, WF]
    | .cons t ts => by
      simp only [wfTermsB, WF, Bool.and_eq_true, wfTermB_iff T t, wfTermsB_iff T ts]
end

instance (T : Table) (ts : Terms) : Decidable (WF T ts) := decidable_of_iff _ (wfTermsB_iff T ts)
instance (T : Table) (t : Term) : Decidable (WFt T t) := decidable_of_iff _ (wfTermB_iff T t)

/-- `cc`-free shape check: ASCII only, upper-case first, then no upper-case letter, digit, `[`, `(`, `)` -/
def symShapeAscii : Sym → Bool
  | [] => false
  | c :: rest => isAsciiUpper c &&
      rest.all (fun c => decide (c < 128) && !isAsciiUpper c && !isAsciiDigit c && c != 91 && c != 40 && c != 41)

def symbolsOKAscii (T : Table) : Bool :=
  T.all (fun e => !isUpperHead e.sym || (T.find? e.sym == some e && symShapeAscii e.sym))

theorem symShape_of_ascii {cc : CharClass} (hcc : cc.AsciiOK) {sym : Sym} (h : symShapeAscii sym = true) :
    symShape cc sym = true := by
  cases sym with
  | nil => exact h
  | cons c rest =>
    simp only [symShapeAscii, Bool.and_eq_true, List.all_eq_true, decide_eq_true_eq, Bool.not_eq_true'] at h
    simp only [symShape, Bool.and_eq_true, List.all_eq_true]
    refine ⟨h.1, fun x hx => ?_⟩
    obtain ⟨⟨⟨⟨⟨hlt, hu⟩, hd⟩, h91⟩, h40⟩, h41⟩ := h.2 x hx
    have hnum : cc.numeric x = false := by
      rw [(hcc x hlt).2.1]
      exact hd
    rw [inert, hu, hnum, h91, h40, h41]
    rfl

theorem symbolsOK_of_ascii (cc : CharClass) (hcc : cc.AsciiOK) (T : Table)
    (h : symbolsOKAscii T = true) : SymbolsOK cc T := by
  intro e he hhead
  have h' := List.all_eq_true.1 h e he
  simp only [hhead, Bool.not_true, Bool.false_or, Bool.and_eq_true, beq_iff_eq] at h'
  exact ⟨h'.1, symShape_of_ascii hcc h'.2⟩

end Chem
