import ChemProofs.Props.C09Range
/-
C09 (continued) — the centre masses of the aggregated isotopic variants increase STRICTLY on an
explicit prefix.

If every extra neutron of every element of the composition adds between `dlo` and `dhi` mass units
(`IncrOK`, an entry-wise condition on the two coefficient lists of the element, checkable by the
kernel through `incrOKB`), then with `B = Σ nₑ · baseₑ`
    (B + dlo·j) · exProb j ≤ exMass j ≤ (B + dhi·j) · exProb j           (`aggMass_shift_bounds`)
    B + dlo·j ≤ exCentre j ≤ B + dhi·j            when exProb j ≠ 0      (`centre_shift_bounds`)
    exCentre j < exCentre (j+1)                   when j·(dhi − dlo) < dlo (`centre_strict_prefix`)
`IncrOK` says `baseₑ·Pₑ + dlo·ΘPₑ ≤ Mₑ ≤ baseₑ·Pₑ + dhi·ΘPₑ` coefficient by coefficient (`elemM_shift`, `Θ` the
Euler operator of Lemmas/BrainBounds.lean); the rest is `exMass_between` of Props/C09Range.lean.
-/

namespace Chem
open PowerSeries C03Series

/-- the hypothesis, phrased on coefficients so that it is checkable entry by entry -/
def IncrOK (e : Elem) (one base dlo dhi : Rat) : Prop :=
  ∀ k : Nat, dlo * k * (Spec.elemPoly e one false).getD k 0 ≤
                (Spec.elemPoly e one true).getD k 0 - base * (Spec.elemPoly e one false).getD k 0 ∧
             (Spec.elemPoly e one true).getD k 0 - base * (Spec.elemPoly e one false).getD k 0 ≤
                dhi * k * (Spec.elemPoly e one false).getD k 0

/-- the isotope form of the hypothesis (what `IncrOK` means, through `elemPoly_entry`): it suffices
    that `dlo·k·aᵢ ≤ (mᵢ − base)·aᵢ ≤ dhi·k·aᵢ` for every isotope `i` and every index `k` -/
theorem incrOK_of_isos (e : Elem) (one base dlo dhi : Rat)
    (h : ∀ i ∈ e.isos, ∀ k : Nat,
      (Spec.elemPoly e one false).getD k 0 = (i.abund : Rat) / one →
      dlo * k * ((i.abund : Rat) / one) ≤ ((i.mass : Rat) / one - base) * ((i.abund : Rat) / one) ∧
      ((i.mass : Rat) / one - base) * ((i.abund : Rat) / one) ≤ dhi * k * ((i.abund : Rat) / one)) :
    IncrOK e one base dlo dhi := by
  intro k
  rcases elemPoly_entry e one k with ⟨h0, h1⟩ | ⟨i, hi, h0, h1⟩
  · rw [h0, h1, mul_zero, mul_zero, mul_zero, sub_zero]
    exact ⟨le_refl _, le_refl _⟩
  · rw [h0, h1, ← sub_mul]
    exact h i hi k h0

theorem elemM_shift (e : Elem) (one base dlo dhi : Rat) (h : IncrOK e one base dlo dhi) :
    C base * P one e + C dlo * Theta (P one e) ≤ M one e ∧
    M one e ≤ C base * P one e + C dhi * Theta (P one e) := by
  constructor
  · intro k
    rw [LinearMap.map_add, coeff_C_mul, coeff_C_mul, coeff_Theta, M, P, coeff_toPS, coeff_toPS, ← mul_assoc]
    exact le_sub_iff_add_le'.mp (h k).1
  · intro k
    rw [LinearMap.map_add, coeff_C_mul, coeff_C_mul, coeff_Theta, M, P, coeff_toPS, coeff_toPS, ← mul_assoc]
    exact sub_le_iff_le_add'.mp (h k).2

/-- entry-wise check over the (finitely many) coefficient indices of the element's polynomials -/
def incrOKB (e : Elem) (one base dlo dhi : Rat) : Bool :=
  (List.range ((Spec.elemPoly e one false).length)).all fun k =>
    decide (dlo * k * (Spec.elemPoly e one false).getD k 0 ≤
      (Spec.elemPoly e one true).getD k 0 - base * (Spec.elemPoly e one false).getD k 0) &&
    decide ((Spec.elemPoly e one true).getD k 0 - base * (Spec.elemPoly e one false).getD k 0 ≤
      dhi * k * (Spec.elemPoly e one false).getD k 0)

theorem incrOK_of_B (e : Elem) (one base dlo dhi : Rat) (h : incrOKB e one base dlo dhi = true) :
    IncrOK e one base dlo dhi := by
  intro k
  by_cases hk : k < (Spec.elemPoly e one false).length
  · have hk' := List.all_eq_true.1 h k (List.mem_range.2 hk)
    rwa [Bool.and_eq_true, decide_eq_true_eq, decide_eq_true_eq] at hk'
  · have h0 : (Spec.elemPoly e one false).getD k 0 = 0 :=
      List.getD_eq_default _ _ (Nat.le_of_not_lt hk)
    have h1 : (Spec.elemPoly e one true).getD k 0 = 0 := by
      apply List.getD_eq_default
      rw [elemPoly_length e one true, ← elemPoly_length e one false]
      exact Nat.le_of_not_lt hk
    rw [h0, h1, mul_zero, mul_zero, mul_zero, sub_zero]
    exact ⟨le_refl _, le_refl _⟩

/-- **coefficient-wise shifted bounds**: `(B + dlo·j)·aggProb j ≤ aggMass j ≤ (B + dhi·j)·aggProb j`
    with `B = Σ nₑ·baseₑ`, whenever every index step of every element adds between `dlo` and `dhi`
    mass units to `baseₑ` (`IncrOK`) and the abundances are non-negative -/
theorem aggMass_shift_bounds (c : List (Elem × Nat)) {one : Rat} (hone : 0 ≤ one)
    (hab : ∀ x ∈ c, ∀ i ∈ x.1.isos, 0 ≤ i.abund) (base : Elem → Rat) (dlo dhi : Rat)
    (hinc : ∀ x ∈ c, IncrOK x.1 one (base x.1) dlo dhi) (deg j : Nat) (hj : j ≤ deg) :
    (massBound base c + dlo * j) * exProb c one deg j ≤ exMass c one deg j ∧
      exMass c one deg j ≤ (massBound base c + dhi * j) * exProb c one deg j :=
  exMass_between c hone hab base base dlo dhi (fun x hx => elemM_shift x.1 one _ dlo dhi (hinc x hx)) deg j hj

theorem centre_shift_bounds (c : List (Elem × Nat)) {one : Rat} (hone : 0 ≤ one)
    (hab : ∀ x ∈ c, ∀ i ∈ x.1.isos, 0 ≤ i.abund) (base : Elem → Rat) (dlo dhi : Rat)
    (hinc : ∀ x ∈ c, IncrOK x.1 one (base x.1) dlo dhi) (deg j : Nat) (hj : j ≤ deg)
    (hp : exProb c one deg j ≠ 0) :
    massBound base c + dlo * j ≤ exCentre c one deg j ∧
      exCentre c one deg j ≤ massBound base c + dhi * j :=
  div_between (lt_of_le_of_ne (exProb_nonneg c hone hab deg j hj) hp.symm)
    (aggMass_shift_bounds c hone hab base dlo dhi hinc deg j hj)

/-- **C09, strict increase on a prefix**: as long as `j·(dhi − dlo) < dlo`, the centre mass of
    variant `j + 1` is strictly larger than that of variant `j` -/
theorem centre_strict_prefix (c : List (Elem × Nat)) {one : Rat} (hone : 0 ≤ one)
    (hab : ∀ x ∈ c, ∀ i ∈ x.1.isos, 0 ≤ i.abund) (base : Elem → Rat) (dlo dhi : Rat)
    (hinc : ∀ x ∈ c, IncrOK x.1 one (base x.1) dlo dhi) (deg j : Nat) (hj : j + 1 ≤ deg)
    (hp : exProb c one deg j ≠ 0) (hp' : exProb c one deg (j + 1) ≠ 0)
    (hgap : (j : Rat) * (dhi - dlo) < dlo) :
    exCentre c one deg j < exCentre c one deg (j + 1) := by
  have h1 := (centre_shift_bounds c hone hab base dlo dhi hinc deg j (Nat.le_of_succ_le hj) hp).2
  have h2 := (centre_shift_bounds c hone hab base dlo dhi hinc deg (j + 1) hj hp').1
  rw [Nat.cast_succ] at h2
  exact lt_of_le_of_lt h1 (lt_of_lt_of_le (by linear_combination hgap) h2)

namespace C09StrictEx

/-- a two-isotope element: masses 12 and 13.0034, abundances 0.99 / 0.01 (`one = 10000`) -/
def exC : Elem :=
  { tkey := [67], sym := [67],
    isos := [{ key := 12, mass := 120000, abund := 9900, neutrons := 6, shift := 0 },
             { key := 13, mass := 130034, abund := 100, neutrons := 7, shift := 1 }],
    mostIso := 12, mostMass := 120000, minShift := 0, maxShift := 1, elemNum := 12 }

/-- a three-isotope element: masses 15.9949, 16.9991, 17.9992, abundances 0.9976 / 0.0004 / 0.0020 -/
def exO : Elem :=
  { tkey := [79], sym := [79],
    isos := [{ key := 16, mass := 159949, abund := 9976, neutrons := 8, shift := 0 },
             { key := 17, mass := 169991, abund := 4, neutrons := 9, shift := 1 },
             { key := 18, mass := 179992, abund := 20, neutrons := 10, shift := 2 }],
    mostIso := 16, mostMass := 159949, minShift := 0, maxShift := 2, elemNum := 16 }

def exCO : List (Elem × Nat) := [(exC, 2), (exO, 1)]

def exBase (e : Elem) : Rat := (lightest e : Rat) / 10000

example : Spec.elemPoly exC 10000 false = [99 / 100, 1 / 100] := by decide +kernel
example : Spec.elemPoly exC 10000 true = [12 * (99 / 100), 130034 / 10000 * (1 / 100)] := by
  decide +kernel

/-- each extra neutron adds between 1 and 1.0034 mass units to ¹²C (plain `decide` fails here: core
    `Rat` arithmetic is irreducible for the elaborator) -/
example : incrOKB exC 10000 12 1 (10034 / 10000) = true := by decide +kernel
example : incrOKB exC 10000 12 1 (10034 / 10000) = true := by decide +kernel

/-- the step of `exC` is exactly 1.0034: a smaller upper slope is rejected -/
example : incrOKB exC 10000 12 1 (10033 / 10000) = false := by decide +kernel

theorem exC_incr : IncrOK exC 10000 (exBase exC) 1 (10043 / 10000) :=
  incrOK_of_B _ _ _ _ _ (by decide +kernel)

theorem exO_incr : IncrOK exO 10000 (exBase exO) 1 (10043 / 10000) :=
  incrOK_of_B _ _ _ _ _ (by decide +kernel)

theorem exCO_mem : ∀ x ∈ exCO, x = (exC, 2) ∨ x = (exO, 1) := by
  intro x hx
  simpa [exCO] using hx

theorem exCO_ab : ∀ x ∈ exCO, ∀ i ∈ x.1.isos, 0 ≤ i.abund := by
  intro x hx
  rcases exCO_mem x hx with rfl | rfl <;> decide

theorem exCO_incr : ∀ x ∈ exCO, IncrOK x.1 10000 (exBase x.1) 1 (10043 / 10000) := by
  intro x hx
  rcases exCO_mem x hx with rfl | rfl
  · exact exC_incr
  · exact exO_incr

theorem exCO_prob : ∀ j : Fin 5, exProb exCO 10000 4 j.1 ≠ 0 := by decide +kernel

/-- the gap condition `j·(dhi − dlo) < dlo` holds for every `j < 232` (here: `j ≤ 3`) -/
theorem exCO_gap : ∀ j : Fin 4, ((j.1 : Nat) : Rat) * (10043 / 10000 - 1) < 1 := by decide +kernel

/-- the instance of `centre_strict_prefix`: the centre masses of the variants 0..4 of C₂O increase
    strictly -/
theorem exCO_strict (j : Nat) (hj : j + 1 ≤ 4) :
    exCentre exCO 10000 4 j < exCentre exCO 10000 4 (j + 1) :=
  centre_strict_prefix exCO (by norm_num) exCO_ab exBase 1 (10043 / 10000) exCO_incr 4 j hj
    (exCO_prob ⟨j, Nat.lt_succ_of_lt hj⟩) (exCO_prob ⟨j + 1, Nat.succ_lt_succ hj⟩) (exCO_gap ⟨j, hj⟩)

/-- the instance of `centre_shift_bounds`, `B = 2·12 + 15.9949` -/
example (j : Nat) (hj : j ≤ 4) :
    399949 / 10000 + 1 * (j : Rat) ≤ exCentre exCO 10000 4 j ∧
      exCentre exCO 10000 4 j ≤ 399949 / 10000 + 10043 / 10000 * (j : Rat) := by
  have h := centre_shift_bounds exCO (by norm_num) exCO_ab exBase 1 (10043 / 10000) exCO_incr 4 j hj
    (exCO_prob ⟨j, by omega⟩)
  have hB : massBound exBase exCO = 399949 / 10000 := by decide +kernel
  rw [hB] at h
  exact h

example : (List.range 5).map (exCentre exCO 10000 4) =
    [399949 / 10000, 2085584313 / 50870000, 319299931 / 7602500, 426155799 / 9910000,
      22003 / 500] := by decide +kernel

end C09StrictEx

end Chem

#print axioms Chem.aggMass_shift_bounds
#print axioms Chem.centre_shift_bounds
#print axioms Chem.centre_strict_prefix
#print axioms Chem.incrOK_of_B
#print axioms Chem.C09StrictEx.exCO_strict
