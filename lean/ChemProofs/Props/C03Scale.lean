import ChemProofs.Props.C03Series
/-
C03 — scaling invariance of the series oracle.

The python oracle divides every element's `P_e` AND `M_e` by a non-zero constant (the constant term
of `P_e`) before evaluating the closed forms `probSeries`, `masswSeries`
(Lemmas/BrainSeries.lean), and afterwards only uses (i) the ratios `prob_j / prob_k` (equivalently
`prob_j / Σ_k prob_k`) and (ii) the quotients `massw_j / prob_j`.  Both are unchanged: the scaling
multiplies both series by the same non-zero constant `Π_e sc_e ^ n_e`.
-/
namespace Chem
namespace C03Series
open PowerSeries

noncomputable def Psc (sc : Elem → ℚ) (one : Rat) (e : Elem) : ℚ⟦X⟧ := C (sc e) * P one e
noncomputable def Msc (sc : Elem → ℚ) (one : Rat) (e : Elem) : ℚ⟦X⟧ := C (sc e) * M one e

noncomputable def probSeriesSc (sc : Elem → ℚ) (one : Rat) (c : List (Elem × Nat)) : ℚ⟦X⟧ :=
  probOf (Psc sc one) c
noncomputable def masswSeriesSc (sc : Elem → ℚ) (one : Rat) (c : List (Elem × Nat)) : ℚ⟦X⟧ :=
  masswOf (Psc sc one) (Msc sc one) c

theorem probSeriesSc_eq (sc : Elem → ℚ) (one : Rat) (c : List (Elem × Nat)) :
    probSeriesSc sc one c = C (scaleConst sc c) * probSeries one c :=
  probOf_scale (P one) sc c

theorem masswSeriesSc_eq (sc : Elem → ℚ) (one : Rat) (c : List (Elem × Nat)) :
    masswSeriesSc sc one c = C (scaleConst sc c) * masswSeries one c :=
  masswOf_scale (P one) (M one) sc c

theorem coeff_probSeriesSc (sc : Elem → ℚ) (one : Rat) (c : List (Elem × Nat)) (j : Nat) :
    coeff j (probSeriesSc sc one c) = scaleConst sc c * coeff j (probSeries one c) := by
  rw [probSeriesSc_eq, coeff_C_mul]

theorem coeff_masswSeriesSc (sc : Elem → ℚ) (one : Rat) (c : List (Elem × Nat)) (j : Nat) :
    coeff j (masswSeriesSc sc one c) = scaleConst sc c * coeff j (masswSeries one c) := by
  rw [masswSeriesSc_eq, coeff_C_mul]

/-- (ii) the average mass of peak `j` is unchanged by the scaling -/
theorem mass_quotient_scale_invariant (sc : Elem → ℚ) (one : Rat) (c : List (Elem × Nat))
    (hsc : ∀ x ∈ c, sc x.1 ≠ 0) (j : Nat) :
    coeff j (masswSeriesSc sc one c) / coeff j (probSeriesSc sc one c) =
      coeff j (masswSeries one c) / coeff j (probSeries one c) := by
  rw [coeff_masswSeriesSc, coeff_probSeriesSc]
  exact mul_div_mul_left _ _ (scaleConst_ne_zero hsc)

/-- (i) every ratio of two probabilities is unchanged by the scaling -/
theorem prob_ratio_scale_invariant (sc : Elem → ℚ) (one : Rat) (c : List (Elem × Nat))
    (hsc : ∀ x ∈ c, sc x.1 ≠ 0) (j k : Nat) :
    coeff j (probSeriesSc sc one c) / coeff k (probSeriesSc sc one c) =
      coeff j (probSeries one c) / coeff k (probSeries one c) := by
  rw [coeff_probSeriesSc, coeff_probSeriesSc]
  exact mul_div_mul_left _ _ (scaleConst_ne_zero hsc)

/-- (i′) the normalised form the oracle actually uses: `prob_j / Σ_{k ∈ ks} prob_k` -/
theorem prob_normalised_scale_invariant (sc : Elem → ℚ) (one : Rat) (c : List (Elem × Nat))
    (hsc : ∀ x ∈ c, sc x.1 ≠ 0) (j : Nat) (ks : List Nat) :
    coeff j (probSeriesSc sc one c) / (ks.map fun k => coeff k (probSeriesSc sc one c)).sum =
      coeff j (probSeries one c) / (ks.map fun k => coeff k (probSeries one c)).sum := by
  rw [List.map_congr_left fun k _ => coeff_probSeriesSc sc one c k, List.sum_map_mul_left, coeff_probSeriesSc]
  exact mul_div_mul_left _ _ (scaleConst_ne_zero hsc)

/-- combined with `aggProb_closed` / `aggMass_closed`: the specification's quotient
    `aggMass_j / aggProb_j` is the quotient of the SCALED oracle series -/
theorem spec_mass_quotient_scaled (sc : Elem → ℚ) (one : Rat) (c : List (Elem × Nat))
    (hsc : ∀ x ∈ c, sc x.1 ≠ 0) (d j : Nat) (hj : j ≤ d) :
    (Spec.aggMass c one d).getD j 0 / (Spec.aggProb c one d).getD j 0 =
      coeff j (masswSeriesSc sc one c) / coeff j (probSeriesSc sc one c) := by
  rw [aggMass_closed c one d j hj, aggProb_closed c one d j hj,
    mass_quotient_scale_invariant sc one c hsc j]

/-- single element: `prob' = c^n · P^n`, `massw' = c^n · n P^(n−1) M` -/
theorem single_scale (sc : Elem → ℚ) (one : Rat) (e : Elem) (n : Nat) :
    probSeriesSc sc one [(e, n)] = C (sc e ^ n) * P one e ^ n ∧
    masswSeriesSc sc one [(e, n)] = C (sc e ^ n) * ((n : ℚ⟦X⟧) * P one e ^ (n - 1) * M one e) := by
  have hK : scaleConst sc [(e, n)] = sc e ^ n := by simp [scaleConst]
  rw [probSeriesSc_eq, masswSeriesSc_eq, hK, (single one e n).1, (single one e n).2]
  exact ⟨rfl, rfl⟩

end C03Series
end Chem

