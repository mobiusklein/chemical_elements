import ChemProofs.Props.C11
/-
C11T — the whole function `isotopicConvolution` with a positive threshold.
-/
namespace Chem

theorem mass_pos {d : Dist} (hne : d ≠ []) (h : ∀ x ∈ d, 0 < x.2) : 0 < mass d :=
  List.sum_pos _ (List.forall_mem_map.mpr h) (by simpa [mass] using hne)

theorem le_share {out : Dist} {t : Rat} (ht : 0 < t) (hpos : 0 < mass out) (hle : mass out ≤ 1)
    {x : Rat × Rat} (hx : t ≤ x.2) : t ≤ x.2 / mass out := by
  rw [le_div_iff₀ hpos]
  exact le_trans (mul_le_of_le_one_right ht.le hle) hx

/-- `keep t (arrangements es)` with the filter spelt out, as some end results here and in `Inst/C11.lean` write it -/
abbrev reaching (es : List (Dist × Nat)) (t : Rat) : Dist :=
  (arrangements es).filter (fun x => decide (t ≤ x.2))

theorem conv_eq_reaching {t : Rat} {es : List (Dist × Nat)} (hne : es ≠ []) (hes : ∀ x ∈ es, Unit01 x.1)
    (hnd : ¬ Degenerate es) :
    convolveEntries t (toEntries es) 0 [] = reaching es t :=
  conv_pruned hne (fun x hx => Good.of_unit01 (t := t) (hes x hx)) hnd

theorem mass_keep_le {d : Dist} (h : NonNeg d) (t : Rat) : mass (keep t d) ≤ mass d :=
  ((keep_sublist t d).map _).sum_le_sum (List.forall_mem_map.mpr h)

theorem mass_arrangements_le_one {es : List (Dist × Nat)} (hes : ∀ x ∈ es, NonNeg x.1)
    (hle : ∀ x ∈ es, mass x.1 ≤ 1) : mass (arrangements es) ≤ 1 :=
  (arrangements_closed (P := fun a => NonNeg a ∧ mass a ≤ 1)
    ⟨(Good.unit 0).nonneg, mass_unit.le⟩
    (fun ha hb => ⟨ha.1.prod hb.1, (mass_prod _ _).symm ▸ mul_le_one₀ ha.2 (mass_nonneg hb.1) hb.2⟩)
    fun x hx => ⟨hes x hx, hle x hx⟩).2

theorem mass_reaching_le_one {es : List (Dist × Nat)} (hes : ∀ x ∈ es, Unit01 x.1)
    (hle : ∀ x ∈ es, mass x.1 ≤ 1) (t : Rat) : mass (reaching es t) ≤ 1 := by
  have hnn : ∀ x ∈ es, NonNeg x.1 := fun x hx y hy => (hes x hx y hy).1
  exact le_trans (mass_keep_le (Good.arrangements fun x hx => Good.of_nonneg (hnn x hx)).nonneg t)
    (mass_arrangements_le_one hnn hle)

/-- **the whole function at a positive threshold**, as an equation.  The hypothesis that the reaching
    arrangements have total probability at most 1 is necessary (`threshold_counterexample`): `Unit01` alone
    bounds each abundance, not their sum. -/
theorem isotopicConvolution_threshold_eq {es : List (Dist × Nat)} {t : Rat} (ht : 0 < t) (hne : es ≠ [])
    (hes : ∀ x ∈ es, Unit01 x.1) (hnd : ¬ Degenerate es) (hK : reaching es t ≠ [])
    (hle : mass (reaching es t) ≤ 1) (z : Int) (c : Rat) :
    isotopicConvolution (es.map (fun e => (e.1, (e.2 : Int)))) z c t =
      some ((sortByMass (reaching es t)).map fun x =>
        { mz := chargedMz x.1 z c, int := x.2 / mass (reaching es t) }) := by
  have hall : ∀ x ∈ reaching es t, t ≤ x.2 := fun x hx => (mem_keep.mp hx).2
  have hpos := mass_pos hK fun x hx => ht.trans_le (hall x hx)
  rw [isotopicConvolution_eq_finish, conv_eq_reaching hne hes hnd]
  exact finish_eq hpos (fun x hx => le_share ht hpos hle (hall x hx)) z c

/-- the same in the form of the property; it does not state `¬ Degenerate es` and `mass (reaching es t) ≤ 1`: the
    second does not follow from `Unit01` and the statement is false without it (`threshold_counterexample`) -/
theorem isotopicConvolution_threshold_partial {es : List (Dist × Nat)} {t : Rat} (ht : 0 < t) (hne : es ≠ [])
    (hes : ∀ x ∈ es, Unit01 x.1) (hnd : ¬ Degenerate es) (hK : reaching es t ≠ [])
    (hle : mass (reaching es t) ≤ 1) (z : Int) (c : Rat) :
    ∃ peaks : List Peak, isotopicConvolution (es.map (fun e => (e.1, (e.2 : Int)))) z c t = some peaks ∧
      total peaks = 1 ∧
      peaks.Pairwise (fun p q => p.mz ≤ q.mz) ∧
      (peaks.map (·.int)).Perm ((reaching es t).map fun x => x.2 / mass (reaching es t)) ∧
      (∀ p ∈ peaks, t ≤ p.int) ∧
      peaks.Perm ((reaching es t).map fun x =>
        ({ mz := chargedMz x.1 z c, int := x.2 / mass (reaching es t) } : Peak)) := by
  have hall : ∀ x ∈ reaching es t, t ≤ x.2 := fun x hx => (mem_keep.mp hx).2
  have hpos := mass_pos hK fun x hx => ht.trans_le (hall x hx)
  have heq := isotopicConvolution_threshold_eq ht hne hes hnd hK hle z c
  obtain ⟨h1, h2, h3, h4⟩ := scaledPeaks_sort (reaching es t) hpos.ne' z c
  refine ⟨_, heq, h1, h2, h4, fun p hp => ?_, h3⟩
  obtain ⟨x, hx, rfl⟩ := List.mem_map.mp (h3.subset hp)
  exact le_share ht hpos hle (hall x hx)

/-- the same with the bound on the total derived from the isotope distributions: each element's
    abundances sum to at most 1 (true of every real isotope table) -/
theorem isotopicConvolution_threshold_partial' {es : List (Dist × Nat)} {t : Rat} (ht : 0 < t) (hne : es ≠ [])
    (hes : ∀ x ∈ es, Unit01 x.1) (hsub : ∀ x ∈ es, mass x.1 ≤ 1) (hnd : ¬ Degenerate es)
    (hK : (arrangements es).filter (fun x => decide (t ≤ x.2)) ≠ []) (z : Int) (c : Rat) :
    ∃ peaks, isotopicConvolution (es.map (fun e => (e.1, (e.2 : Int)))) z c t = some peaks ∧
      total peaks = 1 ∧
      peaks.Pairwise (fun p q => p.mz ≤ q.mz) ∧
      (peaks.map (·.int)).Perm (((arrangements es).filter (fun x => decide (t ≤ x.2))).map fun x =>
        x.2 / mass ((arrangements es).filter (fun x => decide (t ≤ x.2)))) ∧
      (∀ p ∈ peaks, t ≤ p.int) := by
  obtain ⟨p, h1, h2, h3, h4, h5, _⟩ :=
    isotopicConvolution_threshold_partial ht hne hes hnd hK (mass_reaching_le_one hes hsub t) z c
  exact ⟨p, h1, h2, h3, h4, h5⟩

/-- no arrangement reaches the threshold — the result is `some []` (not `none`: `Pattern.normalize` returns
    the empty pattern unchanged, and so does `ignoreBelow`); `0 < t` is not needed -/
theorem isotopicConvolution_threshold_none {es : List (Dist × Nat)} {t : Rat} (hne : es ≠ [])
    (hes : ∀ x ∈ es, Unit01 x.1) (hnd : ¬ Degenerate es)
    (hK : (arrangements es).filter (fun x => decide (t ≤ x.2)) = []) (z : Int) (c : Rat) :
    isotopicConvolution (es.map (fun e => (e.1, (e.2 : Int)))) z c t = some [] := by
  rw [isotopicConvolution_eq_finish, conv_eq_reaching hne hes hnd, show reaching es t = [] from hK,
    sortByMass_of_sorted List.Pairwise.nil, finish_nil]

/-- the premises of `isotopicConvolution_threshold_partial` and `…_partial'` are satisfiable together: two entries, threshold 1/10;
    4 of the 32 arrangements reach it -/
example : (0 : Rat) < 1/10 ∧ [(demoD, 3), (demoE, 2)] ≠ [] ∧
    (∀ x ∈ [(demoD, 3), (demoE, 2)], Unit01 x.1) ∧ (∀ x ∈ [(demoD, 3), (demoE, 2)], mass x.1 ≤ 1) ∧
    ¬ Degenerate [(demoD, 3), (demoE, 2)] ∧
    (arrangements [(demoD, 3), (demoE, 2)]).filter (fun x => decide ((1/10 : Rat) ≤ x.2)) ≠ [] ∧
    ((arrangements [(demoD, 3), (demoE, 2)]).filter (fun x => decide ((1/10 : Rat) ≤ x.2))).length = 4 ∧
    mass ((arrangements [(demoD, 3), (demoE, 2)]).filter (fun x => decide ((1/10 : Rat) ≤ x.2))) ≤ 1 := by
  refine ⟨by decide +kernel, by decide +kernel, ?_, by decide +kernel, ?_, by decide +kernel⟩
  · unfold Unit01
    decide +kernel
  · rintro ⟨_, _, h, _⟩
    cases h

example : ∃ peaks : List Peak, isotopicConvolution [(demoD, 3), (demoE, 2)] (-2) 1 (1/10) = some peaks ∧
    total peaks = 1 ∧ peaks.Pairwise (fun p q => p.mz ≤ q.mz) ∧ peaks.length = 4 ∧
    ∀ p ∈ peaks, (1/10 : Rat) ≤ p.int := by
  obtain ⟨p, h1, h2, h3, h4, h5⟩ := isotopicConvolution_threshold_partial' (es := [(demoD, 3), (demoE, 2)])
    (t := 1/10) (by decide +kernel) (by decide +kernel) (by unfold Unit01; decide +kernel) (by decide +kernel)
    (by rintro ⟨_, _, h, _⟩; cases h) (by decide +kernel) (-2) 1
  refine ⟨p, h1, h2, h3, ?_, h5⟩
  have := h4.length_eq
  rw [List.length_map, List.length_map] at this
  rw [this]
  decide +kernel

/-- an abundance list that is `Unit01` but sums to 2 -/
def badD : Dist := [(1, 1), (2, 1)]

theorem bad_sort : sortByMass [((2 : Rat), (1 : Rat)), (3, 1), (3, 1), (4, 1)] =
    [(2, 1), (3, 1), (3, 1), (4, 1)] :=
  sortByMass_of_sorted (by decide +kernel)

/-- **counterexample**: with `R = reaching [(badD, 2)] (1/2)` every other premise holds (`Unit01`, not
    degenerate, `R ≠ []`, even `0 < mass R`), but `mass R = 4 > 1`, each renormalised intensity is `1/4 < t = 1/2`,
    the final `ignoreBelow` drops all four peaks, and the result is `some []` (total 0, not 1).
    Hence the bound `mass (reaching es t) ≤ 1` in `isotopicConvolution_threshold_partial` cannot be dropped. -/
theorem threshold_counterexample :
    (0 : Rat) < 1/2 ∧ [(badD, 2)] ≠ [] ∧ (∀ x ∈ [(badD, 2)], Unit01 x.1) ∧ ¬ Degenerate [(badD, 2)] ∧
    (arrangements [(badD, 2)]).filter (fun x => decide ((1/2 : Rat) ≤ x.2)) ≠ [] ∧
    0 < mass ((arrangements [(badD, 2)]).filter (fun x => decide ((1/2 : Rat) ≤ x.2))) ∧
    isotopicConvolution ([(badD, 2)].map (fun e => (e.1, (e.2 : Int)))) 1 0 (1/2) = some [] := by
  refine ⟨by norm_num, by simp, ?_, ?_, ?_, ?_, ?_⟩
  · simp only [Unit01, badD]
    decide +kernel
  · rintro ⟨d, n, h, hn⟩
    simp at h
    omega
  · decide +kernel
  · simp only [mass]
    decide +kernel
  · rw [isotopicConvolution_eq_finish]
    have hc : convolveEntries (1/2) ([(badD, 2)].map (fun e => (e.1, (e.2 : Int)))) 0 [] =
        [(2, 1), (3, 1), (3, 1), (4, 1)] := by decide +kernel
    rw [hc, bad_sort]
    decide +kernel

end Chem
