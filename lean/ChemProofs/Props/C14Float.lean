import ChemProofs.Props.C13Float
/-
Floating-point corollaries (standard model, `Model/Float.lean`) for the derived pattern operations of C14
(src/isotopic_pattern/peak.rs): `clone_drop_last`, `slice_normalized`, `truncate_after`, `ignore_below` are list
surgery followed by the same `normalize`; the fused `truncate_after_ignore_below_shift_normalize` divides the
survivors by a *running* total (accumulated over the prefix, then decremented by every filtered-out peak).
-/
namespace Chem

/-- `clone_drop_last` -/
def flDropLast (F : FlModel) (l : List ℚ) : List ℚ := flNormalize F l.dropLast
/-- `slice_normalized(a..b)` -/
def flSlice (F : FlModel) (l : List ℚ) (a b : Nat) : List ℚ := flNormalize F ((l.drop a).take (b - a))
/-- `truncate_after`: the first `k = stop_index + 1` peaks -/
def flPrefix (F : FlModel) (l : List ℚ) (k : Nat) : List ℚ := flNormalize F (l.take k)
/-- `ignore_below`: the peaks satisfying `p` -/
def flFilter (F : FlModel) (l : List ℚ) (p : ℚ → Bool) : List ℚ := flNormalize F (l.filter p)

theorem flDropLast_sum_f64 {F : FlModel} (hF : F.OK) (hu : F.u = 1 / 2 ^ 53) {l : List ℚ}
    (hl : ∀ x ∈ l, 0 < x) (hne : l.dropLast ≠ []) (hn : l.dropLast.length ≤ 64) :
    ratAbs ((flDropLast F l).sum - 1) ≤ 1 / 10 ^ 14 :=
  flNormalize_sum_f64 hF hu hne (fun x hx => hl x (List.dropLast_subset l hx)) hn

theorem flSlice_sum_f64 {F : FlModel} (hF : F.OK) (hu : F.u = 1 / 2 ^ 53) {l : List ℚ} {a b : Nat}
    (hl : ∀ x ∈ l, 0 < x) (hne : (l.drop a).take (b - a) ≠ [])
    (hn : ((l.drop a).take (b - a)).length ≤ 64) :
    ratAbs ((flSlice F l a b).sum - 1) ≤ 1 / 10 ^ 14 :=
  flNormalize_sum_f64 hF hu hne
    (fun x hx => hl x (List.mem_of_mem_drop (List.mem_of_mem_take hx))) hn

theorem flPrefix_sum_f64 {F : FlModel} (hF : F.OK) (hu : F.u = 1 / 2 ^ 53) {l : List ℚ} {k : Nat}
    (hl : ∀ x ∈ l, 0 < x) (hne : l.take k ≠ []) (hn : (l.take k).length ≤ 64) :
    ratAbs ((flPrefix F l k).sum - 1) ≤ 1 / 10 ^ 14 :=
  flNormalize_sum_f64 hF hu hne (fun x hx => hl x (List.mem_of_mem_take hx)) hn

theorem flFilter_sum_f64 {F : FlModel} (hF : F.OK) (hu : F.u = 1 / 2 ^ 53) {l : List ℚ} {p : ℚ → Bool}
    (hl : ∀ x ∈ l, 0 < x) (hne : l.filter p ≠ []) (hn : (l.filter p).length ≤ 64) :
    ratAbs ((flFilter F l p).sum - 1) ≤ 1 / 10 ^ 14 :=
  flNormalize_sum_f64 hF hu hne (fun x hx => hl x (List.mem_of_mem_filter hx)) hn

/-- ratios inside the retained list are preserved up to `(1 + u) / (1 - u)`; indices refer to the retained list -/
theorem flDropLast_ratio {F : FlModel} (hF : F.OK) (hu : F.u < 1) {l : List ℚ}
    (hl : ∀ x ∈ l, 0 < x) (hne : l.dropLast ≠ []) {i j : Nat} {xi xj yi yj : ℚ}
    (hxi : l.dropLast[i]? = some xi) (hyi : (flDropLast F l)[i]? = some yi)
    (hxj : l.dropLast[j]? = some xj) (hyj : (flDropLast F l)[j]? = some yj) :
    yi * xj * (1 - F.u) ≤ yj * xi * (1 + F.u) :=
  flNormalize_ratio hF hne (fun x hx => hl x (List.dropLast_subset l hx)) hu hxi hyi hxj hyj

theorem flSlice_ratio {F : FlModel} (hF : F.OK) (hu : F.u < 1) {l : List ℚ} {a b : Nat}
    (hl : ∀ x ∈ l, 0 < x) (hne : (l.drop a).take (b - a) ≠ []) {i j : Nat} {xi xj yi yj : ℚ}
    (hxi : ((l.drop a).take (b - a))[i]? = some xi) (hyi : (flSlice F l a b)[i]? = some yi)
    (hxj : ((l.drop a).take (b - a))[j]? = some xj) (hyj : (flSlice F l a b)[j]? = some yj) :
    yi * xj * (1 - F.u) ≤ yj * xi * (1 + F.u) :=
  flNormalize_ratio hF hne
    (fun x hx => hl x (List.mem_of_mem_drop (List.mem_of_mem_take hx))) hu hxi hyi hxj hyj

theorem flPrefix_ratio {F : FlModel} (hF : F.OK) (hu : F.u < 1) {l : List ℚ} {k : Nat}
    (hl : ∀ x ∈ l, 0 < x) (hne : l.take k ≠ []) {i j : Nat} {xi xj yi yj : ℚ}
    (hxi : (l.take k)[i]? = some xi) (hyi : (flPrefix F l k)[i]? = some yi)
    (hxj : (l.take k)[j]? = some xj) (hyj : (flPrefix F l k)[j]? = some yj) :
    yi * xj * (1 - F.u) ≤ yj * xi * (1 + F.u) :=
  flNormalize_ratio hF hne (fun x hx => hl x (List.mem_of_mem_take hx)) hu hxi hyi hxj hyj

theorem flFilter_ratio {F : FlModel} (hF : F.OK) (hu : F.u < 1) {l : List ℚ} {p : ℚ → Bool}
    (hl : ∀ x ∈ l, 0 < x) (hne : l.filter p ≠ []) {i j : Nat} {xi xj yi yj : ℚ}
    (hxi : (l.filter p)[i]? = some xi) (hyi : (flFilter F l p)[i]? = some yi)
    (hxj : (l.filter p)[j]? = some xj) (hyj : (flFilter F l p)[j]? = some yj) :
    yi * xj * (1 - F.u) ≤ yj * xi * (1 + F.u) :=
  flNormalize_ratio hF hne (fun x hx => hl x (List.mem_of_mem_filter hx)) hu hxi hyi hxj hyj

/-- the divisor of the fused operation: `total += p.intensity` over the prefix, then `total -= p.intensity`
for each filtered-out peak, in order -/
def flFusedTotal (F : FlModel) (pre dropped : List ℚ) : ℚ :=
  dropped.foldl (fun acc x => F.rnd (acc - x)) (flSum F pre)

/-- `truncate_after_ignore_below_shift_normalize` on the intensities: prefix of length `k`, keep the peaks
satisfying `p`, `peak.intensity /= total` with the running total -/
def flFused (F : FlModel) (l : List ℚ) (k : Nat) (p : ℚ → Bool) : List ℚ :=
  let pre := l.take k
  let T := flFusedTotal F pre (pre.filter fun x => !p x)
  (pre.filter p).map fun x => F.rnd (x / T)

theorem flFusedTotal_eq (F : FlModel) (pre dropped : List ℚ) :
    flFusedTotal F pre dropped = flSum F (pre ++ dropped.map fun x => -x) := by
  unfold flFusedTotal flSum
  rw [List.foldl_append, List.foldl_map]
  simp only [sub_eq_add_neg]

theorem flFusedTotal_err {F : FlModel} (hF : F.OK) {pre dropped : List ℚ}
    (hpre : ∀ x ∈ pre, 0 ≤ x) (hd : ∀ x ∈ dropped, 0 ≤ x) :
    |flFusedTotal F pre dropped - (pre.sum - dropped.sum)|
      ≤ ((1 + F.u) ^ (pre.length + dropped.length) - 1) * (pre.sum + dropped.sum) := by
  have h := flSum_abs_le hF (pre ++ dropped.map fun x => -x)
  have e : ((fun x : ℚ => |x|) ∘ fun x => -x) = fun x => |x| := funext fun x => abs_neg x
  rwa [← flFusedTotal_eq, List.sum_append, ← List.sum_neg,
    ← sub_eq_add_neg, List.length_append, List.length_map, List.map_append, List.sum_append,
    List.map_map, e, sum_map_abs_of_nonneg hpre, sum_map_abs_of_nonneg hd] at h

theorem flFusedTotal_err_pre {F : FlModel} (hF : F.OK) {pre dropped : List ℚ}
    (hpre : ∀ x ∈ pre, 0 ≤ x) (hd : ∀ x ∈ dropped, 0 ≤ x) (hle : dropped.sum ≤ pre.sum) :
    |flFusedTotal F pre dropped - (pre.sum - dropped.sum)|
      ≤ 2 * ((1 + F.u) ^ (pre.length + dropped.length) - 1) * pre.sum := by
  refine (flFusedTotal_err hF hpre hd).trans ?_
  rw [mul_comm 2, mul_assoc, two_mul]
  exact mul_le_mul_of_nonneg_left (add_le_add_right hle _) (pow_sub_one_nonneg hF.1 _)

/-- relative form: if the survivors carry at least the fraction `ρ` of the prefix, the divisor is within
`1 ± η` of their exact total, `η = ((1+u)^(n+m) - 1) (2 - ρ) / ρ` (`n` prefix peaks, `m` filtered out):
cancellation amplifies the accumulated rounding by `1 / ρ` -/
theorem flFusedTotal_within {F : FlModel} (hF : F.OK) {pre dropped : List ℚ}
    (hpre : ∀ x ∈ pre, 0 ≤ x) (hd : ∀ x ∈ dropped, 0 ≤ x) {ρ η : ℚ} (hρ0 : 0 < ρ)
    (hρ : ρ * pre.sum ≤ pre.sum - dropped.sum)
    (hη : ((1 + F.u) ^ (pre.length + dropped.length) - 1) * (2 - ρ) / ρ ≤ η) :
    Within (1 - η) (1 + η) (pre.sum - dropped.sum) (flFusedTotal F pre dropped) := by
  have herr := flFusedTotal_err hF hpre hd
  have hε0 := pow_sub_one_nonneg hF.1 (pre.length + dropped.length)
  generalize (1 + F.u) ^ (pre.length + dropped.length) - 1 = ε at herr hε0 hη
  generalize flFusedTotal F pre dropped = T at herr ⊢
  have hP : 0 ≤ pre.sum := List.sum_nonneg hpre
  generalize pre.sum = P at herr hρ hP ⊢
  generalize dropped.sum = D at herr hρ ⊢
  have hS : 0 ≤ P - D := (mul_nonneg hρ0.le hP).trans hρ
  -- `P + D = 2 P - S ≤ (2 / ρ - 1) S` for `S = P - D ≥ ρ P`
  have h1 : P + D ≤ (2 - ρ) * (P - D) / ρ := by
    rw [le_div_iff₀ hρ0]
    linarith only [hρ]
  have h2 : ε * (P + D) ≤ η * (P - D) := by
    refine (mul_le_mul_of_nonneg_left h1 hε0).trans ?_
    rw [← mul_div_assoc, ← mul_assoc, mul_div_right_comm]
    exact mul_le_mul_of_nonneg_right hη hS
  exact Within.of_abs_sub_le (herr.trans h2)

/-- `total_filter_split` of `Lemmas/Peaks.lean` on bare intensities (the float files do not import the peak-list
lemmas) -/
theorem sum_filter_add_sum_filter_not (p : ℚ → Bool) (l : List ℚ) :
    (l.filter p).sum + (l.filter fun x => !p x).sum = l.sum := by
  rw [← List.sum_append]
  exact (List.filter_append_perm p l).sum_eq

/-- `η` bounds the relative error of the divisor (`flFusedTotal_within`) -/
theorem flFused_sum {F : FlModel} (hF : F.OK) (hu : F.u < 1) {l : List ℚ} {k : Nat} {p : ℚ → Bool}
    (hl : ∀ x ∈ l, 0 < x) (hne : (l.take k).filter p ≠ []) {ρ η : ℚ} (hρ0 : 0 < ρ)
    (hρ : ρ * (l.take k).sum ≤ ((l.take k).filter p).sum)
    (hη : ((1 + F.u) ^ ((l.take k).length + ((l.take k).filter fun x => !p x).length) - 1)
      * (2 - ρ) / ρ ≤ η) (hη1 : η < 1) :
    (1 - F.u) / (1 + η) ≤ (flFused F l k p).sum ∧ (flFused F l k p).sum ≤ (1 + F.u) / (1 - η) := by
  have hpre : ∀ x ∈ l.take k, 0 < x := fun x hx => hl x (List.mem_of_mem_take hx)
  have hkept : ∀ x ∈ (l.take k).filter p, 0 < x := fun x hx => hpre x (List.mem_of_mem_filter hx)
  have hS := (flSum_pos hF hne hkept hu).1
  have hpart := eq_sub_of_add_eq (sum_filter_add_sum_filter_not p (l.take k))
  have hW := flFusedTotal_within hF (fun x hx => (hpre x hx).le)
    (fun x hx => (hpre x (List.mem_of_mem_filter hx)).le) hρ0 (hpart ▸ hρ) hη
  rw [← hpart] at hW
  exact sum_map_rnd_div_of_within hF hu.le (fun x hx => (hkept x hx).le) hS hW (sub_pos.2 hη1)

/-- a sum between `(1 - u) / (1 + g t)` and `(1 + u) / (1 - g t)`, `1 ≤ t ≤ T`, is within `B t` of `1` as soon as
`u + g ≤ B (1 - g T)`: the scale `t` is dealt with here, so that a caller checks closed numerals only -/
theorem abs_sub_one_le_of_div_bounds {u g B t T s : ℚ} (hu : 0 ≤ u) (hg : 0 ≤ g) (hB0 : 0 ≤ B)
    (ht1 : 1 ≤ t) (htT : t ≤ T) (hgT : g * T < 1) (hB : u + g ≤ B * (1 - g * T))
    (hlo : (1 - u) / (1 + g * t) ≤ s) (hhi : s ≤ (1 + u) / (1 - g * t)) : |s - 1| ≤ B * t := by
  have ht0 : 0 ≤ t := zero_le_one.trans ht1
  have hgt : 0 ≤ g * t := mul_nonneg hg ht0
  -- `u + g t ≤ (u + g) t ≤ B t (1 - g T) ≤ B t (1 - g t)`
  have h1 := mul_le_mul_of_nonneg_right hB ht0
  have h2 := mul_le_mul_of_nonneg_left (mul_le_mul_of_nonneg_left htT hg) (mul_nonneg hB0 ht0)
  have h3 := mul_le_mul_of_nonneg_left ht1 hu
  have h4 : 0 ≤ B * t * (g * t) := mul_nonneg (mul_nonneg hB0 ht0) hgt
  rw [abs_sub_le_iff]
  constructor
  · refine (sub_le_sub_right hhi 1).trans ?_
    rw [sub_le_iff_le_add', div_le_iff₀ (by linarith only [mul_le_mul_of_nonneg_left htT hg, hgT])]
    linarith only [h1, h2, h3]
  · refine (sub_le_sub_left hlo 1).trans ?_
    rw [sub_le_comm, le_div_iff₀ (by linarith only [hgt])]
    linarith only [h1, h2, h3, h4]

/-- **the fused operation in binary64**, at most 64 prefix peaks, survivors carrying at least the fraction
`ρ ≥ 10^-12` of the prefix: the exact sum of the computed intensities is within `3·10^-14 / ρ` of 1 -/
theorem flFused_sum_f64 {F : FlModel} (hF : F.OK) (hu : F.u = 1 / 2 ^ 53) {l : List ℚ} {k : Nat} {p : ℚ → Bool}
    (hl : ∀ x ∈ l, 0 < x) (hne : (l.take k).filter p ≠ []) (hn : (l.take k).length ≤ 64)
    {ρ : ℚ} (hρlo : 1 / 10 ^ 12 ≤ ρ) (hρ : ρ * (l.take k).sum ≤ ((l.take k).filter p).sum) :
    ratAbs ((flFused F l k p).sum - 1) ≤ 3 / (10 ^ 14 * ρ) := by
  have hu1 := f64_u_lt_one hu
  have hρ0 : 0 < ρ := lt_of_lt_of_le (by norm_num) hρlo
  -- `ρ ≤ 1`: the survivors are part of the prefix
  have hpre : ∀ x ∈ l.take k, 0 < x := fun x hx => hl x (List.mem_of_mem_take hx)
  have hS := (flSum_pos hF hne (fun x hx => hpre x (List.mem_of_mem_filter hx)) hu1).1
  have hP : ((l.take k).filter p).sum ≤ (l.take k).sum :=
    List.filter_sublist.sum_le_sum fun x hx => (hpre x hx).le
  have hρ1 : ρ ≤ 1 :=
    le_of_mul_le_mul_right ((hρ.trans hP).trans_eq (one_mul _).symm) (hS.trans_le hP)
  -- everything is a multiple of `t = 1 / ρ ∈ [1, 10^12]`
  have ht1 : 1 ≤ 1 / ρ := one_le_one_div hρ0 hρ1
  have ht12 : 1 / ρ ≤ 10 ^ 12 := (one_div_le hρ0 (by norm_num)).2 hρlo
  -- at most 128 roundings in the divisor: `(1 + u)^N - 1 ≤ γ₁₂₈ ≤ 1.425e-14`; with `2 - ρ ≤ 2` that is
  -- `η ≤ 2 γ₁₂₈ / ρ ≤ 285/10^16 · (1 / ρ)`
  have hN : (l.take k).length + ((l.take k).filter fun x => !p x).length ≤ 128 :=
    Nat.add_le_add hn ((List.length_filter_le _ _).trans hn)
  have hε := (one_add_pow_sub_one_le hF.1 hN (by rw [hu]; norm_num)).trans
    (by rw [hu]; norm_num : _ ≤ (1425 : ℚ) / 10 ^ 17)
  have hη : ((1 + F.u) ^ ((l.take k).length + ((l.take k).filter fun x => !p x).length) - 1)
      * (2 - ρ) / ρ ≤ 285 / 10 ^ 16 * (1 / ρ) := by
    rw [← mul_one_div]
    exact mul_le_mul_of_nonneg_right ((mul_le_mul hε (sub_le_self 2 hρ0.le)
      (sub_nonneg.2 (hρ1.trans one_le_two)) (by norm_num)).trans_eq (by norm_num)) (zero_le_one.trans ht1)
  have h := flFused_sum hF hu1 hl hne hρ0 hρ hη
    ((mul_le_mul_of_nonneg_left ht12 (by norm_num)).trans_lt (by norm_num))
  rw [ratAbs_eq_abs, ← div_div, div_eq_mul_one_div (3 / 10 ^ 14)]
  exact abs_sub_one_le_of_div_bounds hF.1 (by norm_num) (by norm_num) ht1 ht12 (by norm_num)
    (by rw [hu]; norm_num) h.1 h.2

/-- prefix of 3 of `[8, 4, 2, 1, 1]`, dropping the peaks below 3: survivors `[8, 4]` carry `12/14 ≥ 6/7` -/
example : (∀ x ∈ ([8, 4, 2, 1, 1] : List ℚ), 0 < x)
    ∧ (([8, 4, 2, 1, 1] : List ℚ).take 3).filter (fun x => decide (3 ≤ x)) ≠ []
    ∧ (([8, 4, 2, 1, 1] : List ℚ).take 3).length ≤ 64
    ∧ (1 : ℚ) / 10 ^ 12 ≤ 6 / 7
    ∧ (6 / 7 : ℚ) * (([8, 4, 2, 1, 1] : List ℚ).take 3).sum
        ≤ ((([8, 4, 2, 1, 1] : List ℚ).take 3).filter (fun x => decide (3 ≤ x))).sum := by
  decide +kernel

example : flFusedTotal exactModel [8, 4, 2] [2] = 12 := by decide +kernel

example : flFused exactModel [8, 4, 2, 1, 1] 3 (fun x => decide (3 ≤ x)) = [2 / 3, 1 / 3] := by
  decide +kernel

example : flDropLast exactModel [2, 1, 1, 4] = [1 / 2, 1 / 4, 1 / 4] := by decide +kernel
example : flSlice exactModel [7, 2, 1, 1, 4] 1 4 = [1 / 2, 1 / 4, 1 / 4] := by decide +kernel
example : flPrefix exactModel [2, 1, 1, 4] 3 = [1 / 2, 1 / 4, 1 / 4] := by decide +kernel
example : flFilter exactModel [2, 7, 1, 1] (fun x => decide (x ≤ 2)) = [1 / 2, 1 / 4, 1 / 4] := by
  decide +kernel

/-- cancellation is real: in the model that is always off by the full `u = 1/8`, the running total of
`[8, 1]` minus the dropped `8` is `117/32 ≈ 3.66` against the exact `1` (survivor fraction `ρ = 1/9`) -/
example : flFusedTotal ⟨fun x => x * (1 + 1 / 8), 1 / 8⟩ [8, 1] [8] = 117 / 32 := by decide +kernel

end Chem
