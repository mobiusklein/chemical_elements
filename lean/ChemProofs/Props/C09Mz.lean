import ChemProofs.Props.C03Exact
import ChemProofs.Props.C09Strict
/-
C09 — the m/z values of the list `brainVariants` RETURNS are strictly increasing.

The returned list is `sortByMz (cutLoop cut exactRaw false)` (`ExactHyp.variants_eq`).  When the exact centre masses
increase strictly from each variant to the next (`variants_mz_strict_of_step`; from `IncrOK` and the gap condition
`j·(dhi − dlo) < dlo` by `centre_strict_prefix`: `variants_mz_strict`), the exact raw list is already strictly increasing
in m/z; so is every sublist of it, the sort has nothing to do (`sortByMz_cutLoop_of_sorted`), and what is returned is the
cut of the exact raw list itself.
-/
namespace Chem

/-- a chain for a transitive relation is pairwise -/
theorem pairwise_lt_of_step (f : Nat → Rat) (n : Nat) (hstep : ∀ j, j + 1 ≤ n → f j < f (j + 1)) :
    (List.range (n + 1)).Pairwise (fun i j => f i < f j) :=
  haveI : Trans (fun i j => f i < f j) (fun i j => f i < f j) (fun i j => f i < f j) := ⟨lt_trans⟩
  List.isChain_iff_pairwise.1 ((List.isChain_range_succ _ n).2 hstep)

/-- **C09, strict m/z of the returned list**, parametric in the centre step: the exact centre masses increase strictly
    from each variant `j < order` to the next -/
theorem variants_mz_strict_of_step {K : BrainConsts} {c : List (Elem × Nat)} {req : PeakReq} {order : Nat}
    (H : ExactHyp K c req order) {z : Int} {carrier : Rat}
    (hstep : ∀ j, j + 1 ≤ order → exCentre c K.one order j < exCentre c K.one order (j + 1))
    {out : List Peak} (hout : brainVariants K (toB c) req z carrier = .ok out) :
    out.Pairwise (fun a b => a.mz < b.mz) := by
  -- the exact raw list is strictly increasing in m/z: so is its cut, and the sort leaves that alone
  have hraw : (exactRaw c K.one order z carrier).Pairwise (fun a b => a.mz < b.mz) := by
    rw [exactRaw, List.pairwise_map]
    exact (pairwise_lt_of_step _ order hstep).imp (chargedMz_lt_iff z carrier).mpr
  rw [H.variants_eq z carrier, sortByMz_cutLoop_of_sorted K.cut false (hraw.imp le_of_lt)] at hout
  cases hout
  exact hraw.sublist (cutLoop_sublist K.cut _ false)

/-- **C09, strict m/z of the returned list**: for a composition satisfying `ExactHyp` whose elements have
    positive abundances and per-neutron mass increments in `[dlo, dhi]` (`IncrOK`), with the gap condition
    `j·(dhi − dlo) < dlo` for every `j < order`, every list `brainVariants` returns has strictly
    increasing m/z — for every charge and carrier. -/
theorem variants_mz_strict (K : BrainConsts) (c : List (Elem × Nat)) (req : PeakReq) (z : Int)
    (carrier : Rat) (order : Nat) (H : ExactHyp K c req order) (hone : 0 < K.one)
    (hab : ∀ x ∈ c, ∀ i ∈ x.1.isos, 0 < i.abund) (base : Elem → Rat) (dlo dhi : Rat)
    (hinc : ∀ x ∈ c, IncrOK x.1 K.one (base x.1) dlo dhi)
    (hgap : ∀ j, j + 1 ≤ order → (j : Rat) * (dhi - dlo) < dlo)
    (out : List Peak) (hout : brainVariants K (toB c) req z carrier = .ok out) :
    out.Pairwise (fun a b => a.mz < b.mz) := by
  refine variants_mz_strict_of_step H ?_ hout
  intro j hj
  have ho := H.order_le
  have hp : ∀ i, i ≤ order → exProb c K.one order i ≠ 0 := fun i hi =>
    ne_of_gt (exProb_pos c hone H.dom hab order i hi ((Int.ofNat_le.2 hi).trans ho))
  exact centre_strict_prefix c (le_of_lt hone) (fun x hx i hi => Int.le_of_lt (hab x hx i hi)) base dlo dhi
    hinc order j hj (hp j (Nat.le_of_succ_le hj)) (hp (j + 1) hj) (hgap j hj)

end Chem

