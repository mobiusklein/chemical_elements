/-
The i32 layer of C04.  The composition model (`Model/Comp.lean`) counts in unbounded `Int`; the real code counts in `i32`,
and C04 quantifies over operands "with magnitudes bounded so results fit in i32".  That is enough only if the code computes
no *intermediate* value that leaves i32 while the result fits.  This file lists, operator by operator, the values the code
computes for one key (read off `src/props.rs`, `src/composition_list.rs`, `src/composition_map.rs`) and proves which operators
have that property — and, by witness, which do not:

* `+`, `*`, unary `-`, `inc`: the only value computed is the result;
* `-` after commit 200fcbc (`count - other`): likewise.  Before it (`inc(k, -other)`): `-other` leaves i32 for
  `other = i32::MIN` while the difference fits — defect D31, found by asking this question, fixed;
* the (key, count) constructors fold the listed counts with `inc`: every running total is computed.  When the listed counts of
  a key are all non-negative the running totals are monotone and stay between 0 and the total (the all-non-positive case is
  not proved); with mixed signs they can leave i32 while the total fits — finding D32 (known, not repaired).
-/
namespace Chem

def InI32 (x : Int) : Prop := -2147483648 ≤ x ∧ x ≤ 2147483647

instance (x : Int) : Decidable (InI32 x) := by unfold InI32; exact inferInstance

/-- `inc`: `let i = self.get(k); self.set(k, i + count)` -/
def incValues (a c : Int) : List Int := [a + c]
/-- `a + b` per key of `b`: `inst.inc(k, v)` -/
def addValues (a b : Int) : List Int := incValues a b
/-- `a - b` per key of `b` (since 200fcbc): `let count = inst.get(k); inst.set(k, count - v)` -/
def subValues (a b : Int) : List Int := [a - b]
/-- `a - b` per key of `b` as it was: `inst.inc(k, -v)` -/
def subValuesOld (a b : Int) : List Int := (-b) :: incValues a (-b)
/-- `a * n`, `-a` per key: `*v *= scaler` (negation is `_mul_by(-1)`) -/
def mulValues (a n : Int) : List Int := [a * n]
/-- the constructors: one `inc` per listed count of the key, starting from an absent key (0) -/
def sumValues : Int → List Int → List Int
  | _, [] => []
  | acc, c :: cs => (acc + c) :: sumValues (acc + c) cs

theorem add_values_fit (a b : Int) (h : InI32 (a + b)) : ∀ x ∈ addValues a b, InI32 x :=
  List.forall_mem_singleton.2 h

theorem sub_values_fit (a b : Int) (h : InI32 (a - b)) : ∀ x ∈ subValues a b, InI32 x :=
  List.forall_mem_singleton.2 h

theorem mul_values_fit (a n : Int) (h : InI32 (a * n)) : ∀ x ∈ mulValues a n, InI32 x :=
  List.forall_mem_singleton.2 h

/-- D31: operands and result in range, an intermediate value out of range -/
theorem subOld_overflows :
    ∃ a b, InI32 a ∧ InI32 b ∧ InI32 (a - b) ∧ ∃ x ∈ subValuesOld a b, ¬ InI32 x :=
  ⟨-5, -2147483648, by decide, by decide, by decide, 2147483648, by simp [subValuesOld], by decide⟩

/-- ... and this is the only way: the old form was safe whenever `b ≠ i32::MIN` -/
theorem subOld_fit_of_ne_min (a b : Int) (hb : InI32 b) (hne : b ≠ -2147483648) (h : InI32 (a - b)) :
    ∀ x ∈ subValuesOld a b, InI32 x := by
  intro x hx
  rcases List.mem_cons.1 hx with rfl | hx
  · unfold InI32 at hb ⊢
    omega
  · exact List.mem_singleton.1 hx ▸ h

theorem foldl_add_init (l : List Int) (s : Int) : l.foldl (· + ·) s = s + l.foldl (· + ·) 0 := by
  simpa using List.foldl_assoc (op := (· + · : Int → Int → Int)) (l := l) (a₁ := s) (a₂ := 0)

theorem foldl_add_nonneg (l : List Int) (h : ∀ c ∈ l, 0 ≤ c) : 0 ≤ l.foldl (· + ·) 0 :=
  List.foldlRecOn l _ (Int.le_refl 0) fun _ hb c hc => Int.add_nonneg hb (h c hc)

theorem sumValues_last (acc : Int) (cs : List Int) (x : Int) (hx : x ∈ sumValues acc cs) :
    ∃ pre : List Int, pre ≠ [] ∧ (∃ suf, cs = pre ++ suf) ∧ x = acc + pre.foldl (· + ·) 0 := by
  induction cs generalizing acc with
  | nil => cases hx
  | cons c cs ih =>
    rcases List.mem_cons.1 hx with rfl | hx
    · exact ⟨[c], List.cons_ne_nil _ _, ⟨cs, rfl⟩, by rw [List.foldl_cons, List.foldl_nil, Int.zero_add]⟩
    · obtain ⟨pre, _, ⟨suf, hs⟩, he⟩ := ih (acc + c) hx
      refine ⟨c :: pre, List.cons_ne_nil _ _, ⟨suf, congrArg (c :: ·) hs⟩, ?_⟩
      rw [List.foldl_cons, foldl_add_init pre (0 + c), he, Int.zero_add, Int.add_assoc]

/-- the constructors are exact on lists of non-negative counts whose total fits: a running total is the sum of a prefix
    (`sumValues_last`), and the prefix and the rest both sum to something non-negative -/
theorem sum_values_fit_nonneg (cs : List Int) (h0 : ∀ c ∈ cs, 0 ≤ c) (h : InI32 (cs.foldl (· + ·) 0)) :
    ∀ x ∈ sumValues 0 cs, InI32 x := by
  intro x hx
  obtain ⟨pre, _, ⟨suf, rfl⟩, rfl⟩ := sumValues_last 0 _ x hx
  have hp := foldl_add_nonneg pre fun c hc => h0 c (List.mem_append_left _ hc)
  have hs := foldl_add_nonneg suf fun c hc => h0 c (List.mem_append_right _ hc)
  rw [List.foldl_append, foldl_add_init suf] at h
  rw [Int.zero_add]
  exact ⟨Int.le_trans (by decide) hp, Int.le_trans (Int.le_add_of_nonneg_right hs) h.2⟩

/-- D32: with mixed signs a running total leaves i32 although the total fits -/
theorem sum_values_overflow :
    ∃ cs : List Int, (∀ c ∈ cs, InI32 c) ∧ InI32 (cs.foldl (· + ·) 0) ∧ ∃ x ∈ sumValues 0 cs, ¬ InI32 x :=
  ⟨[2147483647, 1, -5], by decide, by decide, 2147483648, by simp [sumValues], by decide⟩

example : sumValues 0 [2147483647, 1, -5] = [2147483647, 2147483648, 2147483643] := by decide +kernel

end Chem
