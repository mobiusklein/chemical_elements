/-
C03 — the BRAIN recurrences compute the coefficients of a product of polynomials (Newton's
identities, exact rational arithmetic).

The idea: the constants of an element hold the coefficients of the power-sum series `−X·P'/P` of
its polynomial; power sums add under products, so `phi_for` yields the power sums of `∏ Pₑ^nₑ` and
`phi_mass_for` those of the same product with one factor `Pₓ` replaced by `Mₓ`; `espOfPs` turns
power sums back into coefficients, which are `Spec.aggProb` and the summands of `Spec.aggMass`.
`Dom e` is what makes the key walk of `isotopic_coefficients` read the isotope list correctly
(defect D5).  This file combines the two vectors on `rawVariants`: with good constants it returns the exact raw
list `exactRaw` (`rawVariants_eq`), of which `rawVariants_spec` is the entry-wise reading; non-vacuity examples follow.

Hypotheses that are really needed (and are spelled out in the statements):
  * `order ≤ maxVariants` (otherwise `nextEsp` truncates);
  * (prob) equal symbols ⇒ equal elements; (mass) pairwise distinct symbols (`phi_mass_for` subtracts 1
    from EVERY entry carrying the element's symbol, so a repeated entry would be off);
  * (mass) recorded `mostMass` = mass of the lightest isotope, and Mₑ(0) ≠ 0, Pₑ(0) ≠ 0, base ≠ 0.
Not proved here: nothing about `cutLoop` / `sortByMz` / `resolveOrder` (Props/C03Exact.lean, C08, C09).
-/
import ChemProofs.Lemmas.BrainMass

namespace Chem
open PowerSeries

/-- variant `j` as the generator is to return it: what the exactness theorems compare the output with -/
def exactPeak (c : List (Elem × Nat)) (one : Rat) (order : Nat) (z : Int) (carrier : Rat) (j : Nat) :
    Peak :=
  { mz := chargedMz (exCentre c one order j) z carrier,
    int := exProb c one order j / exTotal c one order }

/-- the exact raw list: one peak per variant `0 ..= order`, in order of neutron excess -/
def exactRaw (c : List (Elem × Nat)) (one : Rat) (order : Nat) (z : Int) (carrier : Rat) : List Peak :=
  (List.range (order + 1)).map (exactPeak c one order z carrier)

/-- the common factor `κ = base / ∏ c₀ₑ^nₑ` of the two vectors cancels in the normalisation -/
theorem rawVariants_eq (K : BrainConsts) (c : List (Elem × Nat)) (order : Nat) (z : Int)
    (carrier : Rat) (consts : IsoConstants) (hgood : GoodConsts consts c K.one order)
    (hc0 : ∀ x ∈ c, c0 x.1 K.one ≠ 0) (hm0 : ∀ x ∈ c, m0 x.1 K.one ≠ 0)
    (hmost : ∀ x ∈ c, m0 x.1 K.one = (x.1.mostMass : ℚ) / K.one * c0 x.1 K.one)
    (hnodup : (c.map fun x => x.1.sym).Nodup)
    (hV : (order : Int) ≤ maxVariants (toB c)) (hbase : baseIntensity (toB c) K.one ≠ 0) :
    rawVariants K consts (toB c) order z carrier = .ok (exactRaw c K.one order z carrier) := by
  have hk : baseIntensity (toB c) K.one / C03Series.scaleConst (c0 · K.one) c ≠ 0 :=
    div_ne_zero hbase (C03Series.scaleConst_ne_zero hc0)
  unfold rawVariants exactRaw
  simp only
  rw [probabilityVector_of_good consts c K.one order _ _ hV hc0 hgood, Res.ok_bind,
    centerMassVector_of_good' consts c K.one order _ _ hV hc0 hm0 hmost hnodup hgood hbase, Res.ok_bind,
    List.zip_map', List.take_of_length_le (by rw [List.length_map, List.length_range]), List.map_map,
    List.sum_map_mul_left]
  refine congrArg Res.ok (List.map_congr_left fun i _ => ?_)
  simp only [Function.comp_apply, exactPeak, exCentre, exProb, exMass, exTotal, mul_div_mul_left _ _ hk]

/-- C03: the peaks of `rawVariants` (before the cut and the sort): intensities are
    the exact aggregated probabilities normalised over the `order + 1` computed variants, m/z
    values are the charged exact centre masses `aggMass j / aggProb j`. -/
theorem rawVariants_spec (K : BrainConsts) (c : List (Elem × Nat)) (order : Nat) (z : Int)
    (carrier : Rat)
    (hdom : ∀ x ∈ c, Dom x.1) (hc0 : ∀ x ∈ c, c0 x.1 K.one ≠ 0) (hm0 : ∀ x ∈ c, m0 x.1 K.one ≠ 0)
    (hmm : ∀ x ∈ c, x.1.isos.head?.map (·.mass) = some x.1.mostMass)
    (hnodup : (c.map fun x => x.1.sym).Nodup)
    (hV : (order : Int) ≤ maxVariants (toB c)) (hbase : baseIntensity (toB c) K.one ≠ 0) :
    ∃ consts peaks, populate K (toB c) (order : Int) = .ok consts ∧
      rawVariants K consts (toB c) order z carrier = .ok peaks ∧ peaks.length = order + 1 ∧
      ∀ i (hi : i < peaks.length),
        peaks[i].int = (Spec.aggProb c K.one order).getD i 0 /
          ((List.range (order + 1)).map fun j => (Spec.aggProb c K.one order).getD j 0).sum ∧
        peaks[i].mz = chargedMz
          ((Spec.aggMass c K.one order).getD i 0 / (Spec.aggProb c K.one order).getD i 0) z carrier := by
  obtain ⟨consts, hpop, hgood⟩ := populate_toB_good K c order hdom (sym_inj_of_nodup hnodup)
  refine ⟨consts, _, hpop, rawVariants_eq K c order z carrier consts hgood hc0 hm0
    (fun x hx => m0_eq_of_dom (hdom x hx) K.one (hmm x hx)) hnodup hV hbase, ?_, fun i hi => ?_⟩
  · rw [exactRaw, List.length_map, List.length_range]
  · simp only [exactRaw, List.getElem_map, List.getElem_range]
    exact ⟨rfl, rfl⟩

/-- a two-isotope element (keys 1, 2 = `elemNum`, `elemNum + 1`; abundances 0.9 / 0.1) -/
def exH : Elem :=
  { tkey := [72], sym := [72],
    isos := [{ key := 1, mass := 10, abund := 9, neutrons := 1, shift := 0 },
             { key := 2, mass := 20, abund := 1, neutrons := 2, shift := 1 }],
    mostIso := 1, mostMass := 10, minShift := 0, maxShift := 1, elemNum := 1 }

/-- a three-isotope element (abundances 0.6 / 0.3 / 0.1) -/
def exQ : Elem :=
  { tkey := [81], sym := [81],
    isos := [{ key := 5, mass := 50, abund := 6, neutrons := 5, shift := 0 },
             { key := 6, mass := 61, abund := 3, neutrons := 6, shift := 1 },
             { key := 7, mass := 69, abund := 1, neutrons := 7, shift := 2 }],
    mostIso := 5, mostMass := 50, minShift := 0, maxShift := 2, elemNum := 5 }

def exK : BrainConsts :=
  { one := 10, lambdaFactor := 1 / 1800, maxIter := 100, guessCap := 100,
    guessFraction := 999 / 1000, cut := 0 }

def exComp : List (Elem × Nat) := [(exH, 3), (exQ, 2)]

def normalise (l : List Rat) : List Rat := l.map (· / l.sum)

theorem exH_dom : Dom exH :=
  ⟨by decide, by decide, by decide, rfl, rfl⟩

theorem exQ_dom : Dom exQ :=
  ⟨by decide, by decide, by decide, rfl, rfl⟩

theorem exComp_mem : ∀ x ∈ exComp, x = (exH, 3) ∨ x = (exQ, 2) := by
  intro x hx
  simpa [exComp] using hx

theorem exComp_dom : ∀ x ∈ exComp, Dom x.1 := by
  intro x hx
  rcases exComp_mem x hx with rfl | rfl
  · exact exH_dom
  · exact exQ_dom

theorem exComp_c0 : ∀ x ∈ exComp, c0 x.1 exK.one ≠ 0 := by
  intro x hx
  rcases exComp_mem x hx with rfl | rfl <;> decide +kernel

/-- what `brainVariants` returns for H₃Q₂ (5 peaks requested): one evaluation of the model, against which the two
    statements below evaluate the specification -/
theorem brainVariants_example :
    brainVariants exK (toB exComp) (.fixed 5) 0 0 = .ok [⟨13, 729 / 2765⟩, ⟨563 / 40, 972 / 2765⟩,
      ⟨7752 / 515, 2781 / 11060⟩, ⟨18667 / 1165, 233 / 2212⟩, ⟨2628 / 155, 31 / 1106⟩] := by decide +kernel

/-- the intensities `brainVariants` returns for H₃Q₂ (5 peaks requested) are the normalised exact
    aggregated distribution -/
theorem brainVariants_example_intensities :
    (match brainVariants exK (toB exComp) (.fixed 5) 0 0 with
      | .ok peaks => some (intensities peaks)
      | _ => none) = some (normalise (Spec.aggProb exComp 10 4)) := by
  rw [brainVariants_example]
  decide +kernel

/-- … and the m/z values are the probability-weighted centre masses `aggMass / aggProb` -/
theorem brainVariants_example_masses :
    (match brainVariants exK (toB exComp) (.fixed 5) 0 0 with
      | .ok peaks => some (peaks.map (·.mz))
      | _ => none) =
      some ((Spec.aggMass exComp 10 4).zipWith (· / ·) (Spec.aggProb exComp 10 4)) := by
  rw [brainVariants_example]
  decide +kernel

/-- the hypotheses of `probabilityVector_spec` are satisfiable: its instance at the example -/
theorem probabilityVector_example (base : Rat) :
    ∃ consts v, populate exK (toB exComp) 4 = .ok consts ∧
      probabilityVector consts (toB exComp) 4 (maxVariants (toB exComp)) base = .ok v ∧
      v.length = 5 ∧
      ∀ i, i ≤ 4 → v.getD i 0 =
        base / (exComp.map fun x => c0 x.1 exK.one ^ x.2).prod *
          (Spec.aggProb exComp exK.one 4).getD i 0 := by
  exact probabilityVector_spec exK exComp 4 base exComp_dom exComp_c0 (sym_inj_of_nodup (by decide)) (by decide)

/-- the hypotheses of `rawVariants_spec` (hence of `centerMassVector_spec`) are satisfiable: its
    instance at the example composition H₃Q₂ -/
theorem rawVariants_example (z : Int) (carrier : Rat) :
    ∃ consts peaks, populate exK (toB exComp) 4 = .ok consts ∧
      rawVariants exK consts (toB exComp) 4 z carrier = .ok peaks ∧ peaks.length = 5 ∧
      ∀ i (hi : i < peaks.length),
        peaks[i].int = (Spec.aggProb exComp exK.one 4).getD i 0 /
          ((List.range 5).map fun j => (Spec.aggProb exComp exK.one 4).getD j 0).sum ∧
        peaks[i].mz = chargedMz
          ((Spec.aggMass exComp exK.one 4).getD i 0 / (Spec.aggProb exComp exK.one 4).getD i 0)
          z carrier := by
  refine rawVariants_spec exK exComp 4 z carrier exComp_dom exComp_c0 ?_ ?_ (by decide) (by decide)
    (by decide +kernel)
  · intro x hx
    rcases exComp_mem x hx with rfl | rfl <;> decide +kernel
  · intro x hx
    rcases exComp_mem x hx with rfl | rfl <;> rfl

end Chem
