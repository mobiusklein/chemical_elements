import ChemProofs.Lemmas.Peaks
import ChemProofs.Model.Convolution
/-
C11 — the fine-structure convolution enumerates exactly the isotopologue arrangements.

`convolveWith` is the tensor product `prod` followed by the threshold filter `keep`.  `prod` is associative with
unit `[(0, 1)]` as an equality of lists, `arrangementsOf d n` is the n-th power of `d` and `arrangements` the product
over the entries.  Under `Good` (abundances in [0, 1] when the threshold is positive) filtering a factor first does
not change the filtered product, so every buffer of the code is a `Rep`resentative of an arrangement list — the
list itself or its filtered version — and repeated squaring (`pow_spec`), the accumulation over the entries
(`conv_spec`) and the tail of the whole function (`finish_general`) are read off.  All results are equalities of
lists, hence also `List.Perm`.  A name in `_partial` marks a theorem with a hypothesis the property does not state.
-/
namespace Chem

def NonNeg (d : Dist) : Prop := ∀ x ∈ d, 0 ≤ x.2
def Unit01 (d : Dist) : Prop := ∀ x ∈ d, 0 ≤ x.2 ∧ x.2 ≤ 1

/-- the "tensor product" of two distributions (outer loop over the second) -/
def prod (d e : Dist) : Dist := e.flatMap fun b => d.map fun a => (a.1 + b.1, a.2 * b.2)

def keep (t : Rat) (l : Dist) : Dist := l.filter fun x => decide (t ≤ x.2)

/-- the side condition under which pruning is harmless -/
def Good (t : Rat) (d : Dist) : Prop := ∀ x ∈ d, 0 ≤ x.2 ∧ (0 < t → x.2 ≤ 1)

theorem Good.of_unit01 {t : Rat} {d : Dist} (h : Unit01 d) : Good t d :=
  fun x hx => ⟨(h x hx).1, fun _ => (h x hx).2⟩

theorem Good.of_nonneg {d : Dist} (h : NonNeg d) : Good 0 d :=
  fun x hx => ⟨h x hx, fun h0 => absurd h0 (lt_irrefl 0)⟩

theorem Good.nonneg {t : Rat} {d : Dist} (h : Good t d) : NonNeg d := fun x hx => (h x hx).1

theorem prod_nil (d : Dist) : prod d [] = [] := rfl
theorem prod_cons (d : Dist) (b : Rat × Rat) (e : Dist) :
    prod d (b :: e) = d.map (fun a => (a.1 + b.1, a.2 * b.2)) ++ prod d e := by
  simp [prod]
theorem prod_append (d e₁ e₂ : Dist) : prod d (e₁ ++ e₂) = prod d e₁ ++ prod d e₂ := by
  simp [prod]

theorem keep_nil (t : Rat) : keep t [] = [] := rfl
theorem keep_append (t : Rat) (a b : Dist) : keep t (a ++ b) = keep t a ++ keep t b := by
  simp [keep]
theorem keep_keep (t : Rat) (a : Dist) : keep t (keep t a) = keep t a := by
  simp [keep, List.filter_filter]
theorem mem_keep {t : Rat} {a : Dist} {x : Rat × Rat} : x ∈ keep t a ↔ x ∈ a ∧ t ≤ x.2 := by
  simp [keep]
theorem keep_sublist (t : Rat) (a : Dist) : (keep t a).Sublist a := List.filter_sublist

theorem convolveWith_eq (d e : Dist) (t : Rat) : convolveWith d e t = keep t (prod d e) := by
  unfold convolveWith keep prod
  rw [List.filter_flatMap]
  refine List.flatMap_congr fun b _ => ?_
  rw [← List.filterMap_eq_filter, List.filterMap_map]
  refine List.filterMap_congr fun a _ => ?_
  simp only [Function.comp, Option.guard, decide_eq_true_eq, ← not_lt, ite_not]

theorem keep_eq_self {t : Rat} {d : Dist} (h : ∀ x ∈ d, t ≤ x.2) : keep t d = d :=
  List.filter_eq_self.mpr fun x hx => decide_eq_true (h x hx)

theorem keep_of_nonneg {d : Dist} (h : NonNeg d) : keep 0 d = d := keep_eq_self h

theorem mem_prod {d e : Dist} {x : Rat × Rat} :
    x ∈ prod d e ↔ ∃ a ∈ d, ∃ b ∈ e, x = (a.1 + b.1, a.2 * b.2) := by
  simp only [prod, List.mem_flatMap, List.mem_map]
  exact ⟨fun ⟨b, hb, a, ha, h⟩ => ⟨a, ha, b, hb, h.symm⟩, fun ⟨a, ha, b, hb, h⟩ => ⟨b, hb, a, ha, h.symm⟩⟩

theorem Good.prod {t : Rat} {d e : Dist} (hd : Good t d) (he : Good t e) : Good t (prod d e) := by
  intro x hx
  obtain ⟨a, ha, b, hb, rfl⟩ := mem_prod.mp hx
  obtain ⟨a0, a1⟩ := hd a ha
  obtain ⟨b0, b1⟩ := he b hb
  exact ⟨mul_nonneg a0 b0, fun ht => mul_le_one₀ (a1 ht) b0 (b1 ht)⟩

theorem Good.keep {t : Rat} {d : Dist} (hd : Good t d) (s : Rat) : Good t (keep s d) :=
  fun x hx => hd x (mem_keep.mp hx).1

theorem NonNeg.prod {d e : Dist} (hd : NonNeg d) (he : NonNeg e) : NonNeg (prod d e) :=
  (Good.prod (Good.of_nonneg hd) (Good.of_nonneg he)).nonneg

theorem convolveWith_zero (d e : Dist) (hd : NonNeg d) (he : NonNeg e) :
    convolveWith d e 0 = e.flatMap (fun b => d.map (fun a => (a.1 + b.1, a.2 * b.2))) := by
  rw [convolveWith_eq, keep_of_nonneg (NonNeg.prod hd he)]
  rfl

theorem convolveWith_nonneg (d e : Dist) (t : Rat) (hd : NonNeg d) (he : NonNeg e) :
    NonNeg (convolveWith d e t) := by
  rw [convolveWith_eq]
  exact fun x hx => NonNeg.prod hd he x (mem_keep.mp hx).1

theorem prod_unit_right (d : Dist) : prod d [(0, 1)] = d := by
  simp [prod]

theorem prod_unit_left (d : Dist) : prod [(0, 1)] d = d := by
  simp [prod, List.flatMap_singleton']

theorem prod_assoc (a b c : Dist) : prod (prod a b) c = prod a (prod b c) := by
  simp only [prod, List.flatMap_assoc, List.map_flatMap, List.flatMap_map, List.map_map, Function.comp_def,
    add_assoc, mul_assoc]

theorem prod_comm (d e : Dist) : (prod d e).Perm (prod e d) := by
  induction e with
  | nil => simp [prod]
  | cons b e ih =>
    have h : prod (b :: e) d =
        d.flatMap fun a => (a.1 + b.1, a.2 * b.2) :: e.map (fun x => (x.1 + a.1, x.2 * a.2)) := by
      simp only [prod, List.map_cons, add_comm b.1, mul_comm b.2]
    rw [prod_cons, h]
    exact (ih.append_left _).trans (List.map_append_flatMap_perm d _ _)

theorem prod_perm_left {d d' : Dist} (e : Dist) (hd : d.Perm d') : (prod d e).Perm (prod d' e) :=
  List.Perm.flatMap_left e fun _ _ => hd.map _

theorem prod_perm {d d' e e' : Dist} (hd : d.Perm d') (he : e.Perm e') : (prod d e).Perm (prod d' e') :=
  (prod_perm_left e hd).trans (List.Perm.flatMap_right _ he)

theorem arrangementsOf_zero (d : Dist) : arrangementsOf d 0 = [(0, 1)] := rfl
theorem arrangementsOf_succ (d : Dist) (n : Nat) :
    arrangementsOf d (n + 1) = prod (arrangementsOf d n) d := rfl

theorem arrangementsOf_one (d : Dist) : arrangementsOf d 1 = d := by
  rw [arrangementsOf_succ, arrangementsOf_zero, prod_unit_left]

theorem arrangementsOf_add (d : Dist) (m n : Nat) :
    arrangementsOf d (m + n) = prod (arrangementsOf d m) (arrangementsOf d n) := by
  induction n with
  | zero => rw [Nat.add_zero, arrangementsOf_zero, prod_unit_right]
  | succ n ih => rw [← Nat.add_assoc, arrangementsOf_succ, ih, prod_assoc, ← arrangementsOf_succ]

theorem arrangementsOf_add_perm (d : Dist) (m n : Nat) :
    (arrangementsOf d (m + n)).Perm (prod (arrangementsOf d m) (arrangementsOf d n)) :=
  .of_eq (arrangementsOf_add d m n)

theorem arrangements_nil : arrangements [] = [(0, 1)] := rfl
theorem arrangements_cons (d : Dist) (n : Nat) (rest : List (Dist × Nat)) :
    arrangements ((d, n) :: rest) = prod (arrangements rest) (arrangementsOf d n) := by
  simp [arrangements, prod, add_comm, mul_comm]

theorem arrangements_single (d : Dist) (n : Nat) : arrangements [(d, n)] = arrangementsOf d n := by
  rw [arrangements_cons, arrangements_nil, prod_unit_left]

theorem arrangementsOf_closed {P : Dist → Prop} (unit : P [(0, 1)]) (mul : ∀ {a b}, P a → P b → P (prod a b))
    {d : Dist} (hd : P d) (n : Nat) : P (arrangementsOf d n) := by
  induction n with
  | zero => exact unit
  | succ n ih => exact mul ih hd

theorem arrangements_closed {P : Dist → Prop} (unit : P [(0, 1)]) (mul : ∀ {a b}, P a → P b → P (prod a b))
    {es : List (Dist × Nat)} (h : ∀ e ∈ es, P e.1) : P (arrangements es) := by
  induction es with
  | nil => exact unit
  | cons e es ih =>
    obtain ⟨d, n⟩ := e
    rw [arrangements_cons]
    exact mul (ih fun e he => h e (List.mem_cons_of_mem _ he))
      (arrangementsOf_closed unit mul (h (d, n) List.mem_cons_self) n)

theorem Good.unit (t : Rat) : Good t [(0, 1)] := by
  intro x hx
  rw [List.mem_singleton.mp hx]
  exact ⟨zero_le_one, fun _ => le_refl _⟩

theorem Good.arrangementsOf {t : Rat} {d : Dist} (hd : Good t d) (n : Nat) : Good t (arrangementsOf d n) :=
  arrangementsOf_closed (Good.unit t) Good.prod hd n

theorem Good.arrangements {t : Rat} {es : List (Dist × Nat)} (h : ∀ e ∈ es, Good t e.1) :
    Good t (arrangements es) :=
  arrangements_closed (Good.unit t) Good.prod h

theorem le_factor_of_le_mul {t a b : Rat} (a0 : 0 ≤ a) (b1 : 0 < t → b ≤ 1) (h : t ≤ a * b) : t ≤ a := by
  by_cases ht : 0 < t
  · exact le_trans h (mul_le_of_le_one_right a0 (b1 ht))
  · exact le_trans (not_lt.mp ht) a0

theorem keep_prod_filter {t : Rat} {d e : Dist} (p q : Rat × Rat → Bool)
    (h : ∀ a ∈ d, ∀ b ∈ e, t ≤ a.2 * b.2 → p a = true ∧ q b = true) :
    keep t (prod (d.filter p) (e.filter q)) = keep t (prod d e) := by
  induction e with
  | nil => rfl
  | cons b e ih =>
    have ihe := ih fun a ha b' hb' => h a ha b' (List.mem_cons_of_mem _ hb')
    have hb := fun a ha => h a ha b List.mem_cons_self
    rw [prod_cons, keep_append, ← ihe]
    by_cases hq : q b = true
    · rw [List.filter_cons_of_pos hq, prod_cons, keep_append]
      congr 1
      unfold keep
      rw [List.filter_map, List.filter_map, List.filter_filter]
      congr 1
      refine List.filter_congr fun a ha => ?_
      by_cases hab : t ≤ a.2 * b.2
      · simp [hab, (hb a ha hab).1]
      · simp [hab]
    · rw [List.filter_cons_of_neg hq]
      -- nothing built on `b` reaches the threshold
      have hnil : keep t (d.map fun a => (a.1 + b.1, a.2 * b.2)) = [] := by
        unfold keep
        rw [List.filter_eq_nil_iff]
        intro x hx
        obtain ⟨a, ha, rfl⟩ := List.mem_map.mp hx
        exact fun hab => hq (hb a ha (of_decide_eq_true hab)).2
      rw [hnil, List.nil_append]

theorem keep_prod_keep {t : Rat} {d e : Dist} (hd : Good t d) (he : Good t e) :
    keep t (prod (keep t d) (keep t e)) = keep t (prod d e) :=
  keep_prod_filter _ _ fun a ha b hb hab =>
    ⟨decide_eq_true (le_factor_of_le_mul (hd a ha).1 (he b hb).2 hab),
     decide_eq_true (le_factor_of_le_mul (he b hb).1 (hd a ha).2 (mul_comm a.2 b.2 ▸ hab))⟩

def Rep (t : Rat) (X A : Dist) : Prop := X = A ∨ X = keep t A

theorem Rep.refl {t : Rat} {A : Dist} : Rep t A A := Or.inl rfl
theorem Rep.kept {t : Rat} {A : Dist} : Rep t (keep t A) A := Or.inr rfl

theorem Rep.ite {t : Rat} {A : Dist} {c : Prop} [Decidable c] : Rep t (if c then A else keep t A) A := by
  split
  · exact Rep.refl
  · exact Rep.kept

theorem Rep.keep_eq {t : Rat} {X A : Dist} (h : Rep t X A) : keep t X = keep t A := by
  rcases h with rfl | rfl
  · rfl
  · exact keep_keep t A

theorem Rep.good {t : Rat} {X A : Dist} (h : Rep t X A) (hA : Good t A) : Good t X := by
  rcases h with rfl | rfl
  · exact hA
  · exact hA.keep t

theorem Rep.sublist {t : Rat} {X A : Dist} (h : Rep t X A) : X.Sublist A := by
  rcases h with rfl | rfl
  · exact List.Sublist.refl _
  · exact keep_sublist t A

theorem convolveWith_rep {t : Rat} {X Y A B : Dist} (hA : Good t A) (hB : Good t B)
    (hX : Rep t X A) (hY : Rep t Y B) : convolveWith X Y t = keep t (prod A B) := by
  rw [convolveWith_eq, ← keep_prod_keep (hX.good hA) (hY.good hB), hX.keep_eq, hY.keep_eq, keep_prod_keep hA hB]

/-- the squaring loop on a pruned `arr 2^j`: entered with `power = 2·2^j`, `2^j ≤ n`, it leaves `power = 2·2^k` with
    `2^k ≤ n < 2^(k+1)` and the pruned `arr 2^k`; `n + 1 ≤ 2^j + fuel` is enough fuel -/
theorem squareLoop_spec {t : Rat} {d : Dist} (hd : Good t d) (n : Nat) :
    ∀ (fuel j : Nat), 2 ^ j ≤ n → n + 1 ≤ 2 ^ j + fuel →
      ∃ k, j ≤ k ∧ 2 ^ k ≤ n ∧ n < 2 * 2 ^ k ∧
        squareLoop t (n : Int) fuel (keep t (arrangementsOf d (2 ^ j))) (2 * ((2 ^ j : Nat) : Int)) =
          (keep t (arrangementsOf d (2 ^ k)), 2 * ((2 ^ k : Nat) : Int)) := by
  intro fuel
  induction fuel with
  | zero =>
    intro j h1 h2
    omega
  | succ fuel ih =>
    intro j h1 h2
    have hp : 2 ^ (j + 1) = 2 ^ j + 2 ^ j := by rw [Nat.pow_succ, Nat.mul_two]
    have hpos := Nat.two_pow_pos j
    unfold squareLoop
    split
    · next hle =>
      obtain ⟨k, hjk, hk⟩ := ih (j + 1) (by omega) (by omega)
      have hA := hd.arrangementsOf (t := t) (2 ^ j)
      refine ⟨k, Nat.le_of_succ_le hjk, ?_⟩
      rwa [convolveWith_rep hA hA Rep.kept Rep.kept, ← arrangementsOf_add, ← hp,
        show 2 * ((2 ^ j : Nat) : Int) * 2 = 2 * ((2 ^ (j + 1) : Nat) : Int) by
          rw [Nat.pow_succ, Nat.cast_mul, mul_assoc, Nat.cast_ofNat]]
    · next hle => exact ⟨j, Nat.le_refl _, h1, by omega, rfl⟩

theorem convolvePow_zero (d : Dist) (t : Rat) (fuel : Nat) : convolvePow d t (fuel + 1) 0 = [(0, 1)] := rfl

theorem convolvePow_one (d : Dist) (t : Rat) (fuel : Nat) : convolvePow d t (fuel + 1) 1 = d := rfl

/-- every count other than 0 and 1: square while `power ≤ n`, then recurse on the remainder -/
theorem convolvePow_of_ne (d : Dist) (t : Rat) (fuel : Nat) {n : Int} (h0 : n ≠ 0) (h1 : n ≠ 1) :
    convolvePow d t (fuel + 1) n =
      if (squareLoop t n (n.toNat + 1) d 2).2 / 2 < n then
        convolveWith (squareLoop t n (n.toNat + 1) d 2).1
          (convolvePow d t fuel (n - (squareLoop t n (n.toNat + 1) d 2).2 / 2)) t
      else (squareLoop t n (n.toNat + 1) d 2).1 := by
  rw [convolvePow, if_neg (by simpa using h0), if_neg (by simpa using h1)]

/-- a negative count behaves like 1 -/
theorem convolvePow_neg (d : Dist) (t : Rat) (fuel : Nat) (n : Int) (hn : n < 0) :
    convolvePow d t (fuel + 1) n = d := by
  have h3 : ¬ (2 : Int) ≤ n := by omega
  rw [convolvePow_of_ne d t fuel hn.ne (by omega), Int.toNat_of_nonpos hn.le, squareLoop, if_neg h3, if_neg (by omega)]

/-- **the power by repeated squaring is the arrangement list** (pruned at `t` when `n ≥ 2`;
    for `n ≤ 1` the code returns `[(0,1)]` / the distribution itself, unpruned) -/
theorem pow_spec {t : Rat} {d : Dist} (hd : Good t d) :
    ∀ (n fuel : Nat), n + 2 ≤ fuel →
      convolvePow d t fuel (n : Int) =
        if n ≤ 1 then arrangementsOf d n else keep t (arrangementsOf d n) := by
  intro n
  induction n using Nat.strong_induction_on with
  | _ n ih =>
    intro fuel hfuel
    obtain ⟨f, rfl⟩ : ∃ f, fuel = f + 1 := ⟨fuel - 1, by omega⟩
    split
    · next h1 =>
      obtain rfl | rfl : n = 0 ∨ n = 1 := by omega
      · exact convolvePow_zero d t f
      · exact (convolvePow_one d t f).trans (arrangementsOf_one d).symm
    · next h1 =>
      -- the first pass squares `d` itself; from then on the buffer is a pruned `arr 2^j` and `squareLoop_spec` applies
      obtain ⟨k, _, hk1, hk2, hk3⟩ := squareLoop_spec hd n n 1 (by omega) (by omega)
      have hloop : squareLoop t (n : Int) (n + 1) d 2 =
          (keep t (arrangementsOf d (2 ^ k)), 2 * ((2 ^ k : Nat) : Int)) := by
        rw [squareLoop, if_pos (by omega), convolveWith_rep hd hd Rep.refl Rep.refl]
        rwa [show arrangementsOf d (2 ^ 1) = prod d d from
          (arrangementsOf_add d 1 1).trans (by rw [arrangementsOf_one])] at hk3
      have hpos := Nat.two_pow_pos k
      rw [convolvePow_of_ne d t f (by omega) (by omega), Int.toNat_natCast, hloop]
      simp only [Int.mul_ediv_cancel_left _ (two_ne_zero), Nat.cast_lt, ← Nat.cast_sub hk1]
      split
      · next hlt =>
        rw [ih (n - 2 ^ k) (Nat.sub_lt_self hpos hk1) f (by omega),
          convolveWith_rep (hd.arrangementsOf _) (hd.arrangementsOf _) Rep.kept Rep.ite,
          ← arrangementsOf_add, Nat.add_sub_cancel' hk1]
      · next hlt => rw [Nat.le_antisymm hk1 (Nat.not_lt.mp hlt)]

theorem pow_exact_eq {d : Dist} (hd : NonNeg d) (n fuel : Nat) (hfuel : n + 2 ≤ fuel) :
    convolvePow d 0 fuel (n : Int) = arrangementsOf d n := by
  rw [pow_spec (Good.of_nonneg hd) n fuel hfuel]
  split
  · rfl
  · exact keep_of_nonneg ((Good.of_nonneg hd).arrangementsOf n).nonneg

theorem pow_exact {d : Dist} (hd : NonNeg d) (n fuel : Nat) (hfuel : n + 2 ≤ fuel) :
    (convolvePow d 0 fuel (n : Int)).Perm (arrangementsOf d n) :=
  .of_eq (pow_exact_eq hd n fuel hfuel)

/-- the entries as the code sees them (counts as `Int`); reducible, and the end results below spell the map out -/
abbrev toEntries (es : List (Dist × Nat)) : List (Dist × Int) := es.map fun e => (e.1, (e.2 : Int))

theorem convolveEntries_first (t : Rat) (d : Dist) (n : Nat) (rest : List (Dist × Nat)) (out : Dist) :
    convolveEntries t (toEntries ((d, n) :: rest)) 0 out =
      convolveEntries t (toEntries rest) 1 (convolvePow d t (n + 2) n) := by
  rw [toEntries, List.map_cons, convolveEntries, Int.toNat_natCast]
  exact congrArg (convolveEntries t _ _) (if_pos rfl)

theorem convolveEntries_next (t : Rat) (d : Dist) (n : Nat) (rest : List (Dist × Nat)) (i : Nat) (out : Dist) :
    convolveEntries t (toEntries ((d, n) :: rest)) (i + 1) out =
      convolveEntries t (toEntries rest) (i + 2) (convolveWith (convolvePow d t (n + 2) n) out t) := by
  rw [toEntries, List.map_cons, convolveEntries, Int.toNat_natCast]
  rfl

theorem pow_rep {t : Rat} {d : Dist} (hd : Good t d) (n : Nat) :
    Rep t (convolvePow d t (n + 2) (n : Int)) (arrangementsOf d n) := by
  rw [pow_spec hd n (n + 2) (Nat.le_refl _)]
  exact Rep.ite

/-- the accumulation past the first entry (`i + 1`: only index 0 is treated apart, it starts the buffer).  `B` is the
    arrangement list of the entries already consumed and `out` the buffer standing for it, pruned or not.  Every
    further entry convolves and thereby prunes; when none follows (`es = []`) the buffer comes back untouched. -/
theorem conv_acc {t : Rat} : ∀ (es : List (Dist × Nat)) (i : Nat) (out B : Dist),
    (∀ e ∈ es, Good t e.1) → Good t B → Rep t out B →
    convolveEntries t (toEntries es) (i + 1) out =
      if es = [] then out else keep t (prod (arrangements es) B) := by
  intro es
  induction es with
  | nil =>
    intro i out B _ _ _
    rfl
  | cons e rest ih =>
    intro i out B hes hB hout
    obtain ⟨d, n⟩ := e
    have hd : Good t d := hes (d, n) (by simp)
    have hA := hd.arrangementsOf (t := t) n
    rw [if_neg (by simp), convolveEntries_next, convolveWith_rep hA hB (pow_rep hd n) hout,
      ih (i + 1) _ _ (fun e he => hes e (List.mem_cons_of_mem _ he)) (hA.prod hB) Rep.kept,
      arrangements_cons, prod_assoc]
    split
    · next h =>
      subst h
      rw [arrangements_nil, prod_unit_left]
    · rfl

/-- the degenerate case in which the code does not prune at all: a single entry with count ≤ 1 -/
def Degenerate (es : List (Dist × Nat)) : Prop := ∃ d n, es = [(d, n)] ∧ n ≤ 1

/-- **the accumulation computes the arrangement list**, in the enumeration order of `arrangements`; the power of a
    single entry with count ≤ 1 is returned unpruned -/
theorem conv_spec {t : Rat} {es : List (Dist × Nat)} (hne : es ≠ []) (hes : ∀ x ∈ es, Good t x.1) :
    (Degenerate es → convolveEntries t (toEntries es) 0 [] = arrangements es) ∧
    (¬ Degenerate es → convolveEntries t (toEntries es) 0 [] = keep t (arrangements es)) := by
  obtain ⟨⟨d, n⟩, rest, rfl⟩ := List.exists_cons_of_ne_nil hne
  have hd : Good t d := hes (d, n) (by simp)
  rw [convolveEntries_first, conv_acc rest 0 _ _ (fun x hx => hes x (List.mem_cons_of_mem _ hx))
    (hd.arrangementsOf n) (pow_rep hd n), ← arrangements_cons]
  cases rest with
  | nil =>
    rw [if_pos rfl, pow_spec hd n (n + 2) (Nat.le_refl _), arrangements_single]
    constructor
    · rintro ⟨d', n', he, hn⟩
      cases he
      rw [if_pos hn]
    · intro hnd
      rw [if_neg fun hn => hnd ⟨d, n, rfl, hn⟩]
  | cons e rest => exact ⟨fun ⟨d', n', he, _⟩ => (by cases he), fun _ => if_neg (List.cons_ne_nil _ _)⟩

theorem conv_rep {t : Rat} {es : List (Dist × Nat)} (hne : es ≠ []) (hes : ∀ x ∈ es, Good t x.1) :
    Rep t (convolveEntries t (toEntries es) 0 []) (arrangements es) := by
  by_cases h : Degenerate es
  · rw [(conv_spec hne hes).1 h]
    exact Rep.refl
  · rw [(conv_spec hne hes).2 h]
    exact Rep.kept

theorem conv_pruned {t : Rat} {es : List (Dist × Nat)} (hne : es ≠ []) (hes : ∀ x ∈ es, Good t x.1)
    (hnd : ¬ Degenerate es) :
    convolveEntries t (toEntries es) 0 [] = keep t (arrangements es) :=
  (conv_spec hne hes).2 hnd

theorem conv_zero_eq {es : List (Dist × Nat)} (hne : es ≠ []) (hes : ∀ x ∈ es, NonNeg x.1) :
    convolveEntries 0 (es.map (fun e => (e.1, (e.2 : Int)))) 0 [] = arrangements es := by
  have hg : ∀ x ∈ es, Good 0 x.1 := fun x hx => Good.of_nonneg (hes x hx)
  rcases conv_rep hne hg with h | h
  · exact h
  · rwa [keep_of_nonneg (Good.arrangements hg).nonneg] at h

theorem conv_zero {es : List (Dist × Nat)} (hne : es ≠ []) (hes : ∀ x ∈ es, NonNeg x.1) :
    (convolveEntries 0 (es.map (fun e => (e.1, (e.2 : Int)))) 0 []).Perm (arrangements es) :=
  .of_eq (conv_zero_eq hne hes)

/-- pruning never invents anything, and keeps multiplicities and order -/
theorem prune_sublist {t : Rat} {es : List (Dist × Nat)} (hne : es ≠ []) (hes : ∀ x ∈ es, Unit01 x.1) :
    (convolveEntries t (toEntries es) 0 []).Sublist (arrangements es) :=
  (conv_rep hne fun x hx => Good.of_unit01 (hes x hx)).sublist

/-- pruning is sound, membership half: whatever is returned is an arrangement (holds always) -/
theorem prune_sound_mem {t : Rat} {es : List (Dist × Nat)} (hne : es ≠ []) (hes : ∀ x ∈ es, Unit01 x.1)
    (x : Rat × Rat) (hx : x ∈ convolveEntries t (es.map (fun e => (e.1, (e.2 : Int)))) 0 []) :
    x ∈ arrangements es :=
  (prune_sublist hne hes).subset hx

/-- pruning is sound, threshold half.  It needs the entries not to be a single element with count ≤ 1,
    because in that case the code returns the isotope list (or `[(0,1)]`) without pruning
    (counterexample below); the final `ignore_below` of `isotopic_convolution` filters again. -/
theorem prune_sound_partial {t : Rat} {es : List (Dist × Nat)} (hne : es ≠ []) (hes : ∀ x ∈ es, Unit01 x.1)
    (hnd : ¬ Degenerate es)
    (x : Rat × Rat) (hx : x ∈ convolveEntries t (es.map (fun e => (e.1, (e.2 : Int)))) 0 []) :
    t ≤ x.2 ∧ x ∈ arrangements es := by
  rw [conv_pruned hne (fun x hx => Good.of_unit01 (t := t) (hes x hx)) hnd] at hx
  exact (mem_keep.mp hx).symm

theorem prune_complete {t : Rat} {es : List (Dist × Nat)} (hne : es ≠ []) (hes : ∀ x ∈ es, Unit01 x.1)
    (x : Rat × Rat) (hx : x ∈ arrangements es) (ht : t ≤ x.2) :
    x ∈ convolveEntries t (es.map (fun e => (e.1, (e.2 : Int)))) 0 [] := by
  have h := (conv_rep hne fun x hx => Good.of_unit01 (t := t) (hes x hx)).keep_eq
  have : x ∈ keep t (arrangements es) := mem_keep.mpr ⟨hx, ht⟩
  rw [← h] at this
  exact (mem_keep.mp this).1

/-- with multiplicities (always): the qualifying part of the output is the qualifying part of the
    arrangement list -/
theorem prune_filter {t : Rat} {es : List (Dist × Nat)} (hne : es ≠ []) (hes : ∀ x ∈ es, Unit01 x.1) :
    (convolveEntries t (es.map (fun e => (e.1, (e.2 : Int)))) 0 []).filter (fun x => decide (t ≤ x.2)) =
      (arrangements es).filter (fun x => decide (t ≤ x.2)) :=
  (conv_rep hne fun x hx => Good.of_unit01 (t := t) (hes x hx)).keep_eq

/-- with multiplicities, outside the degenerate case: the output *is* the filtered arrangement list -/
theorem prune_perm_partial {t : Rat} {es : List (Dist × Nat)} (hne : es ≠ []) (hes : ∀ x ∈ es, Unit01 x.1)
    (hnd : ¬ Degenerate es) :
    (convolveEntries t (es.map (fun e => (e.1, (e.2 : Int)))) 0 []).Perm
      ((arrangements es).filter (fun x => decide (t ≤ x.2))) :=
  .of_eq (conv_pruned hne (fun x hx => Good.of_unit01 (t := t) (hes x hx)) hnd)

theorem sortByMass_perm (l : Dist) : (sortByMass l).Perm l := List.mergeSort_perm _ _

theorem sortByMass_sorted (l : Dist) : (sortByMass l).Pairwise (fun a b => a.1 ≤ b.1) := by
  have h := List.pairwise_mergeSort (le := fun (a b : Rat × Rat) => decide (a.1 ≤ b.1))
    (fun a b c hab hbc => by
      simp only [decide_eq_true_eq] at hab hbc ⊢
      exact le_trans hab hbc)
    (fun a b => by
      simp only [Bool.or_eq_true, decide_eq_true_eq]
      exact le_total a.1 b.1) l
  exact h.imp (fun hab => by simpa using hab)

/-- empty composition: the empty list, no failure -/
theorem isotopicConvolution_nil (z : Int) (c t : Rat) : isotopicConvolution [] z c t = some [] := by
  simp [isotopicConvolution, convolveEntries, sortByMass, Pattern.normalize, Pattern.ignoreBelow]

/-- total abundance of a distribution -/
def mass (d : Dist) : Rat := (d.map (·.2)).sum

theorem mass_append (a b : Dist) : mass (a ++ b) = mass a + mass b := by simp [mass]

theorem mass_unit : mass [(0, 1)] = 1 := by simp [mass]

theorem mass_prod (d e : Dist) : mass (prod d e) = mass d * mass e := by
  induction e with
  | nil => simp [mass, prod]
  | cons b e ih =>
    rw [prod_cons, mass_append, ih]
    simp only [mass, List.map_map, Function.comp_def, List.sum_map_mul_right, List.map_cons, List.sum_cons]
    ring

theorem mass_arrangementsOf (d : Dist) (n : Nat) : mass (arrangementsOf d n) = mass d ^ n := by
  induction n with
  | zero => rw [arrangementsOf_zero, mass_unit, pow_zero]
  | succ n ih => rw [arrangementsOf_succ, mass_prod, ih, pow_succ]

theorem mass_arrangements (es : List (Dist × Nat)) :
    mass (arrangements es) = (es.map fun e => mass e.1 ^ e.2).prod := by
  induction es with
  | nil => rw [arrangements_nil, mass_unit, List.map_nil, List.prod_nil]
  | cons e es ih =>
    obtain ⟨d, n⟩ := e
    rw [arrangements_cons, mass_prod, ih, mass_arrangementsOf, List.map_cons, List.prod_cons, mul_comm]

theorem mass_arrangements_pos {es : List (Dist × Nat)} (h : ∀ e ∈ es, 0 < mass e.1) :
    0 < mass (arrangements es) :=
  arrangements_closed (P := fun a => 0 < mass a) (mass_unit.symm ▸ one_pos)
    (fun ha hb => (mass_prod _ _).symm ▸ mul_pos ha hb) h

theorem mass_perm {a b : Dist} (h : a.Perm b) : mass a = mass b := (h.map _).sum_eq

theorem mass_nonneg {d : Dist} (h : NonNeg d) : 0 ≤ mass d :=
  List.sum_nonneg (List.forall_mem_map.mpr h)

def distPeaks (out : Dist) (z : Int) (c : Rat) : List Peak :=
  out.map fun (m, a) => { mz := chargedMz m z c, int := a }

/-- the tail of `isotopicConvolution` after the accumulation and the sort -/
def finish (out : Dist) (z : Int) (c t : Rat) : Option (List Peak) :=
  let p : Pattern := { peaks := distPeaks out z c, origin := ((distPeaks out z c).head?.map (·.mz)).getD 0 }
  match p.normalize with
  | none => none
  | some q => (q.ignoreBelow t).map (·.peaks)

theorem isotopicConvolution_eq_finish (entries : List (Dist × Int)) (z : Int) (c t : Rat) :
    isotopicConvolution entries z c t = finish (sortByMass (convolveEntries t entries 0 [])) z c t := rfl

theorem finish_nil (z : Int) (c t : Rat) : finish [] z c t = some [] := by
  simp [finish, distPeaks, Pattern.normalize, Pattern.ignoreBelow]

/-- what the whole function returns when the final filter drops nothing -/
def scaledPeaks (A : Dist) (z : Int) (c : Rat) : List Peak :=
  (sortByMass A).map fun x => { mz := chargedMz x.1 z c, int := x.2 / mass A }

theorem total_map_peak (l : Dist) (f : Rat → Rat) (k : Rat) :
    total (l.map fun x => ({ mz := f x.1, int := x.2 * k } : Peak)) = mass l * k := by
  simp only [total, intensities, mass, List.map_map, Function.comp_def, List.sum_map_mul_right]

theorem total_distPeaks (out : Dist) (z : Int) (c : Rat) : total (distPeaks out z c) = mass out := by
  simpa [distPeaks] using total_map_peak out (fun m => chargedMz m z c) 1

/-- **the tail for every threshold**: the entries whose share of the total reaches `t`, renormalised over
    themselves.  The code normalises, filters at `t` and normalises again; by `ignoreBelow_scaleBy` the first
    normalisation only moves the threshold to `t · total`. -/
theorem finish_general {out : Dist} (hpos : 0 < mass out) (z : Int) (c t : Rat) :
    finish out z c t =
      (Pattern.normalize ⟨distPeaks (keep (t * mass out) out) z c,
        ((distPeaks out z c).head?.map (·.mz)).getD 0⟩).map (·.peaks) := by
  unfold finish
  simp only
  rw [normalize_some _ ((total_distPeaks out z c).symm ▸ hpos.ne')]
  simp only [total_distPeaks]
  rw [ignoreBelow_scaleBy _ hpos]
  unfold Pattern.ignoreBelow
  simp only [distPeaks, List.filter_map]
  rfl

theorem finish_eq {A : Dist} {t : Rat} (hpos : 0 < mass A) (hall : ∀ x ∈ A, t ≤ x.2 / mass A)
    (z : Int) (c : Rat) : finish (sortByMass A) z c t = some (scaledPeaks A z c) := by
  have hp := sortByMass_perm A
  have hm := mass_perm hp
  rw [finish_general (hm.symm ▸ hpos), hm,
    keep_eq_self fun x hx => (le_div_iff₀ hpos).mp (hall x (hp.subset hx)),
    normalize_eq_div ((total_distPeaks _ z c).symm ▸ hm.symm ▸ hpos.ne')]
  simp only [total_distPeaks, hm, Option.map_some, scaledPeaks]
  simp only [distPeaks, List.map_map, Function.comp_def]

/-- what the property asks of the result -/
theorem scaledPeaks_sort (A : Dist) (hA : mass A ≠ 0) (z : Int) (c : Rat) :
    total (scaledPeaks A z c) = 1 ∧
    (scaledPeaks A z c).Pairwise (fun p q => p.mz ≤ q.mz) ∧
    (scaledPeaks A z c).Perm (A.map fun x =>
      ({ mz := chargedMz x.1 z c, int := x.2 / mass A } : Peak)) ∧
    ((scaledPeaks A z c).map (·.int)).Perm (A.map fun x => x.2 / mass A) := by
  have hperm : (scaledPeaks A z c).Perm (A.map fun x =>
      ({ mz := chargedMz x.1 z c, int := x.2 / mass A } : Peak)) := (sortByMass_perm A).map _
  refine ⟨?_, ?_, hperm, ?_⟩
  · have := total_map_peak (sortByMass A) (fun m => chargedMz m z c) (1 / mass A)
    simp only [← div_eq_mul_one_div] at this
    rw [scaledPeaks, this, mass_perm (sortByMass_perm A), div_self hA]
  · rw [scaledPeaks, List.pairwise_map]
    exact (sortByMass_sorted A).imp (chargedMz_le_iff z c).mpr
  · simpa [List.map_map, Function.comp_def] using hperm.map (·.int)

/-- **the whole function at threshold 0** -/
theorem isotopicConvolution_zero_eq {es : List (Dist × Nat)} (hne : es ≠ []) (hes : ∀ x ∈ es, NonNeg x.1)
    (hpos : 0 < mass (arrangements es)) (z : Int) (c : Rat) :
    isotopicConvolution (toEntries es) z c 0 = some (scaledPeaks (arrangements es) z c) := by
  have hA : NonNeg (arrangements es) := (Good.arrangements fun x hx => Good.of_nonneg (hes x hx)).nonneg
  rw [isotopicConvolution_eq_finish, conv_zero_eq hne hes]
  exact finish_eq hpos (fun x hx => div_nonneg (hA x hx) hpos.le) z c

/-- consequences in the form of the property: total 1, sorted by m/z (for every charge, including 0),
    and the peaks are a permutation of the charge-converted, renormalised arrangement list -/
theorem isotopicConvolution_zero {es : List (Dist × Nat)} (hne : es ≠ []) (hes : ∀ x ∈ es, NonNeg x.1)
    (hpos : 0 < mass (arrangements es)) (z : Int) (c : Rat) :
    ∃ peaks, isotopicConvolution (es.map (fun e => (e.1, (e.2 : Int)))) z c 0 = some peaks ∧
      total peaks = 1 ∧
      peaks.Pairwise (fun p q => p.mz ≤ q.mz) ∧
      peaks.Perm ((arrangements es).map fun x =>
        ({ mz := chargedMz x.1 z c, int := x.2 / mass (arrangements es) } : Peak)) ∧
      (peaks.map (·.int)).Perm ((arrangements es).map fun x => x.2 / mass (arrangements es)) :=
  ⟨_, isotopicConvolution_zero_eq hne hes hpos z c, scaledPeaks_sort _ hpos.ne' z c⟩

theorem isotopicConvolution_zero' {es : List (Dist × Nat)} (hne : es ≠ []) (hes : ∀ x ∈ es, NonNeg x.1)
    (hpos : ∀ e ∈ es, 0 < mass e.1) (z : Int) (c : Rat) :
    ∃ peaks, isotopicConvolution (es.map (fun e => (e.1, (e.2 : Int)))) z c 0 = some peaks ∧
      total peaks = 1 ∧ peaks.Pairwise (fun p q => p.mz ≤ q.mz) ∧
      (peaks.map (·.int)).Perm ((arrangements es).map fun x => x.2 / mass (arrangements es)) := by
  obtain ⟨peaks, h1, h2, h3, _, h5⟩ := isotopicConvolution_zero hne hes (mass_arrangements_pos hpos) z c
  exact ⟨peaks, h1, h2, h3, h5⟩

def demoD : Dist := [(1, 3/4), (2, 1/4)]
def demoE : Dist := [(10, 1/2), (11, 1/2)]

example : NonNeg demoD ∧ Unit01 demoD ∧ Unit01 demoE := by
  unfold NonNeg Unit01
  decide +kernel

example : convolvePow demoD 0 5 3 = arrangementsOf demoD 3 := by decide +kernel
example : convolvePow demoD 0 7 5 = arrangementsOf demoD 5 := by decide +kernel
example : (arrangementsOf demoD 3).length = 8 ∧ (arrangementsOf demoD 5).length = 32 := by decide +kernel
example : arrangementsOf demoD 2 = [(2, 9/16), (3, 3/16), (3, 3/16), (4, 1/16)] := by decide +kernel

example : convolvePow demoD (1/10) 5 3 = (arrangementsOf demoD 3).filter (fun x => decide (1/10 ≤ x.2)) := by
  decide +kernel
example : (convolvePow demoD (1/10) 5 3).length = 4 := by decide +kernel

example : convolveEntries (1/10) [(demoD, 3), (demoE, 2)] 0 [] =
    (arrangements [(demoD, 3), (demoE, 2)]).filter (fun x => decide (1/10 ≤ x.2)) := by decide +kernel
example : (convolveEntries (1/10) [(demoD, 3), (demoE, 2)] 0 []).length = 4 ∧
    (arrangements [(demoD, 3), (demoE, 2)]).length = 32 := by decide +kernel

-- the degenerate case: a single entry with count 1 is returned unpruned, so `(2, 1/4)` survives a
-- threshold of 1/2 (this is why `prune_sound_partial` excludes it)
example : (2, 1/4) ∈ convolveEntries (1/2) [(demoD, 1)] 0 [] := by decide +kernel

example : convolvePow demoD 0 3 (-4) = demoD := by decide +kernel

-- the whole function on a concrete input (threshold 0, charge 1, carrier mass 0): hypotheses of
-- `isotopicConvolution_zero_eq` are satisfiable and its conclusion evaluates to the expected peaks
theorem demo_sort : sortByMass [(2, 9/16), (3, 3/16), (3, 3/16), (4, 1/16)] =
    [(2, 9/16), (3, 3/16), (3, 3/16), (4, 1/16)] :=
  sortByMass_of_sorted (by decide +kernel)

example : isotopicConvolution [(demoD, 2)] 1 0 0 =
    some [⟨2, 9/16⟩, ⟨3, 3/16⟩, ⟨3, 3/16⟩, ⟨4, 1/16⟩] := by
  refine (isotopicConvolution_zero_eq (es := [(demoD, 2)]) (by decide +kernel) (by unfold NonNeg; decide +kernel)
    (by decide +kernel) 1 0).trans ?_
  have ha : arrangements [(demoD, 2)] = [(2, 9/16), (3, 3/16), (3, 3/16), (4, 1/16)] := by decide +kernel
  rw [ha, scaledPeaks, demo_sort]
  decide +kernel

example : ∃ peaks, isotopicConvolution [(demoD, 3), (demoE, 2)] (-2) 1 0 = some peaks ∧ total peaks = 1 ∧
    peaks.Pairwise (fun p q => p.mz ≤ q.mz) := by
  obtain ⟨p, h1, h2, h3, _⟩ := isotopicConvolution_zero' (es := [(demoD, 3), (demoE, 2)]) (by decide +kernel)
    (by unfold NonNeg; decide +kernel) (by decide +kernel) (-2) 1
  exact ⟨p, h1, h2, h3⟩

end Chem
