import Mathlib.Data.Nat.Factorial.Basic
import ChemProofs.Lemmas.Peaks
import ChemProofs.Model.Poisson
/-
C15 — the Poisson approximation is a normalised Poisson profile on a neutron ladder
(exact arithmetic: `(mass/1800)^n` is always "representable" in ℚ).

Run from the closed-form state `stateAt λ m = (λ^m, m!)` the intensity loop pushes the terms `λ^m / m!`, so the
pattern is `ladder` applied to that list, and the count search is the order-generic loop `firstBelow` run on the
ratios `pratio λ i = t_i / Σ_{m ≤ i} t_m`.
-/
namespace Chem

theorem map_fst_zipIdx {α β : Type} (g : α → β) (l : List α) (k : Nat) :
    (l.zipIdx k).map (fun p => g p.1) = l.map g := by
  conv_rhs => rw [← List.zipIdx_map_fst k l, List.map_map]
  rfl

theorem map_snd_zipIdx {α β : Type} (g : Nat → β) (l : List α) (k : Nat) :
    (l.zipIdx k).map (fun p => g p.2) = (List.range' k l.length).map g := by
  rw [← List.zipIdx_map_snd k l, List.map_map]
  rfl

/-- the peaks built from un-normalised intensities: entry `i` sits at `mass + i·shift`, converted for the
    charge, and carries its share of the total.  `poisson` and `poissonR` are, by `rfl`, `ladder` of `1 :: ` what
    their loops push. -/
def ladder (mass : Rat) (z : Int) (ns pr : Rat) (ints : List Rat) : List Peak :=
  ints.zipIdx.map fun (x, i) =>
    { mz := chargedMz (mass + ((i : Nat) : Rat) * ns) z pr, int := x / ints.sum }

theorem ladder_length (mass : Rat) (z : Int) (ns pr : Rat) (ints : List Rat) :
    (ladder mass z ns pr ints).length = ints.length := by
  simp [ladder]

theorem ladder_int (mass : Rat) (z : Int) (ns pr : Rat) (ints : List Rat) :
    (ladder mass z ns pr ints).map (·.int) = ints.map (· / ints.sum) := by
  rw [ladder, List.map_map]
  exact map_fst_zipIdx (· / ints.sum) ints 0

theorem ladder_mz (mass : Rat) (z : Int) (ns pr : Rat) (ints : List Rat) :
    (ladder mass z ns pr ints).map (·.mz) =
      (List.range ints.length).map fun (i : Nat) => chargedMz (mass + (i : Rat) * ns) z pr := by
  rw [ladder, List.map_map, List.range_eq_range']
  exact map_snd_zipIdx (fun i => chargedMz (mass + (i : Rat) * ns) z pr) ints 0

theorem ladder_range_int {mass : Rat} {z : Int} {ns pr : Rat} {f : Nat → Rat} {n i : Nat} {p : Peak}
    (hp : (ladder mass z ns pr ((List.range n).map f))[i]? = some p) :
    p.int = f i / ((List.range n).map f).sum := by
  have hi : i < n := by simpa [ladder_length] using (List.getElem?_eq_some_iff.1 hp).1
  have := congrArg (·[i]?) (ladder_int mass z ns pr ((List.range n).map f))
  simpa only [List.getElem?_map, hp, List.getElem?_range hi, Option.map_some, Option.some.injEq] using this

theorem ladder_sum {mass : Rat} {z : Int} {ns pr : Rat} {ints : List Rat} (h0 : ∀ x ∈ ints, 0 ≤ x)
    (hpos : 0 < ints.sum) :
    (∀ q ∈ ladder mass z ns pr ints, 0 ≤ q.int) ∧ total (ladder mass z ns pr ints) = 1 := by
  constructor
  · intro q hq
    have : q.int ∈ (ladder mass z ns pr ints).map (·.int) := List.mem_map_of_mem hq
    rw [ladder_int] at this
    obtain ⟨x, hx, hq⟩ := List.mem_map.mp this
    exact hq ▸ div_nonneg (h0 x hx) hpos.le
  · rw [total, intensities, ladder_int, sum_map_div, div_self hpos.ne']

/-- both Poisson patterns: a first entry `1` before non-negative ones makes the total positive -/
theorem ladder_cons_one_sum {mass : Rat} {z : Int} {ns pr : Rat} {ints : List Rat} (h0 : ∀ x ∈ ints, 0 ≤ x) :
    (∀ q ∈ ladder mass z ns pr (1 :: ints), 0 ≤ q.int) ∧ total (ladder mass z ns pr (1 :: ints)) = 1 :=
  ladder_sum (List.forall_mem_cons.mpr ⟨zero_le_one, h0⟩)
    ((add_pos_of_pos_of_nonneg one_pos (List.sum_nonneg h0)).trans_eq List.sum_cons.symm)

/-- loop invariant: positive factorial accumulator, non-negative power accumulator -/
def PoisState.Good (s : PoisState) : Prop := 0 ≤ s.p ∧ 0 < s.f

theorem pNext_good (lam : Rat) (hl : 0 ≤ lam) (s : PoisState) (i : Nat) (hi : 1 ≤ i) (h : s.Good) :
    (pNext lam s i).Good :=
  ⟨mul_nonneg h.1 hl, mul_pos h.2 (Nat.cast_pos.mpr hi)⟩

/-- the ratio law inside the loop: each new term is the previous one times `λ / i` (also when `s.f = 0`: both
    sides are then `0`) -/
theorem cur_step_of_ne (lam : Rat) (s : PoisState) (i : Nat) (hi : i ≠ 0) :
    (pNext lam s i).cur * (i : Rat) = s.cur * lam := by
  rw [PoisState.cur, pNext, div_mul_eq_mul_div, mul_div_mul_right _ _ (Nat.cast_ne_zero.mpr hi), mul_div_right_comm]
  rfl

theorem cur_step (lam : Rat) (s : PoisState) (i : Nat) (hi : 1 ≤ i) (h : s.Good) :
    (pNext lam s i).cur * (i : Rat) = s.cur * lam :=
  have _ := h
  cur_step_of_ne lam s i (Nat.pos_iff_ne_zero.mp hi)

def pterm (lam : Rat) (m : Nat) : Rat := lam ^ m / (m.factorial : Rat)

/-- the loop's state after iterations `1 … m` -/
def stateAt (lam : Rat) (m : Nat) : PoisState := ⟨lam ^ m, (m.factorial : Rat)⟩

theorem pNext_stateAt (lam : Rat) (m : Nat) : pNext lam (stateAt lam m) (m + 1) = stateAt lam (m + 1) := by
  rw [pNext, stateAt, stateAt, Nat.factorial_succ, pow_succ, Nat.cast_mul, mul_comm (m.factorial : ℚ)]

theorem stateAt_cur (lam : Rat) (m : Nat) : (stateAt lam m).cur = pterm lam m := rfl

theorem stateAt_zero (lam : Rat) : stateAt lam 0 = ⟨1, 1⟩ := by simp [stateAt]

theorem pterm_zero (lam : Rat) : pterm lam 0 = 1 := by
  rw [pterm, pow_zero, Nat.factorial_zero, Nat.cast_one, div_one]

theorem pterm_nonneg {lam : Rat} (hl : 0 ≤ lam) (m : Nat) : 0 ≤ pterm lam m :=
  div_nonneg (pow_nonneg hl m) (Nat.cast_nonneg _)

theorem pterm_step (lam : Rat) (i : Nat) : pterm lam (i + 1) * ((i + 1 : Nat) : Rat) = pterm lam i * lam := by
  rw [← stateAt_cur, ← stateAt_cur, ← pNext_stateAt]
  exact cur_step_of_ne lam _ _ (Nat.succ_ne_zero i)

theorem poissonInts_length (lam : Rat) (k i : Nat) (s : PoisState) : (poissonInts lam k i s).length = k := by
  induction k generalizing i s with
  | zero => rfl
  | succ k ih => simp [poissonInts, ih]

/-- consecutive entries of the intensity list obey `x_j · (i+j) = x_{j-1} · λ`
    (`s.cur` is the term before the first one) -/
theorem poissonInts_ratio (lam : Rat) (hl : 0 ≤ lam) (k i : Nat) (hi : 1 ≤ i) (s : PoisState) (h : s.Good) :
    ∀ j (hj : j < (poissonInts lam k i s).length),
      (poissonInts lam k i s)[j] * ((i + j : Nat) : Rat) =
        (if hj0 : j = 0 then s.cur else (poissonInts lam k i s)[j - 1]'(by omega)) * lam := by
  -- the right-hand side is `(s.cur :: poissonInts lam k i s)[j]` (core's `List.getElem_cons`)
  induction k generalizing i s with
  | zero => exact fun j hj => absurd hj (Nat.not_lt_zero j)
  | succ k ih =>
    rintro (_ | j) hj
    · exact cur_step lam s i hi h
    · have := ih (i + 1) (Nat.le_succ_of_le hi) _ (pNext_good lam hl s i hi h) j (Nat.lt_of_succ_lt_succ hj)
      rwa [← List.getElem_cons (a := (pNext lam s i).cur) (Nat.lt_succ_of_lt (Nat.lt_of_succ_lt_succ hj)),
        Nat.add_right_comm] at this

theorem poissonInts_stateAt (lam : Rat) (k m : Nat) :
    poissonInts lam k (m + 1) (stateAt lam m) = (List.range' (m + 1) k).map (pterm lam) := by
  induction k generalizing m with
  | zero => rfl
  | succ k ih =>
    simp only [poissonInts, pNext_stateAt, stateAt_cur, ih, List.range'_succ, List.map_cons]

theorem poissonInts_closed (lam : Rat) (k : Nat) (j : Nat) (hj : j < k) :
    (poissonInts lam k 1 ⟨1, 1⟩)[j]'(by rw [poissonInts_length]; exact hj) =
      lam ^ (j + 1) / ((j + 1).factorial : Rat) := by
  have h := poissonInts_stateAt lam k 0
  rw [stateAt_zero] at h
  have e : 0 + 1 + 1 * j = j + 1 := by rw [Nat.zero_add, Nat.one_mul, Nat.add_comm]
  simp only [h, List.getElem_map, List.getElem_range', pterm, e]

theorem poisson_ints_eq (lam : Rat) (n : Nat) :
    (1 : Rat) :: poissonInts lam n 1 ⟨1, 1⟩ = (List.range (n + 1)).map (pterm lam) := by
  rw [← stateAt_zero lam, poissonInts_stateAt, List.range_eq_range', List.range'_succ, List.map_cons, pterm_zero]

theorem poisson_eq_ladder (mass : Rat) (n : Nat) (z : Int) (lf ns pr : Rat) :
    poisson mass n z lf ns pr = ladder mass z ns pr ((List.range n).map (pterm (mass / lf))) := by
  cases n with
  | zero => rfl
  | succ n =>
    rw [← poisson_ints_eq]
    rfl

theorem poisson_len (mass : Rat) (n : Nat) (z : Int) (lf ns pr : Rat) : (poisson mass n z lf ns pr).length = n := by
  rw [poisson_eq_ladder, ladder_length, List.length_map, List.length_range]

/-- m/z values start at the charged mass and climb the neutron ladder:
    `mz[i] = chargedMz (mass + i·shift) z proton` -/
theorem poisson_mz (mass : Rat) (n : Nat) (z : Int) (lf ns pr : Rat) :
    (poisson mass n z lf ns pr).map (·.mz) =
      (List.range n).map (fun (i : Nat) => chargedMz (mass + ((i : Nat) : Rat) * ns) z pr) := by
  rw [poisson_eq_ladder, ladder_mz, List.length_map, List.length_range]

theorem poisson_sum (mass : Rat) (n : Nat) (z : Int) (lf ns pr : Rat) (hm : 0 ≤ mass) (hlf : 0 < lf) (hn : 1 ≤ n) :
    (∀ q ∈ poisson mass n z lf ns pr, 0 ≤ q.int) ∧ total (poisson mass n z lf ns pr) = 1 := by
  obtain ⟨k, rfl⟩ := Nat.exists_eq_add_one.mpr hn
  rw [poisson_eq_ladder, List.range_succ_eq_map, List.map_cons, pterm_zero]
  exact ladder_cons_one_sum (List.forall_mem_map.mpr fun m _ => pterm_nonneg (div_nonneg hm hlf.le) _)

/-- **closed form of the pattern**: peak `i` has intensity `(λ^i / i!) / Σ_{j<n} λ^j / j!` -/
theorem poisson_closed (mass : Rat) (n : Nat) (z : Int) (lf ns pr : Rat) (i : Nat) (p : Peak)
    (hp : (poisson mass n z lf ns pr)[i]? = some p) :
    p.int = ((mass / lf) ^ i / (i.factorial : Rat)) /
      ((List.range n).map (fun j => (mass / lf) ^ j / (j.factorial : Rat))).sum := by
  rw [poisson_eq_ladder] at hp
  exact ladder_range_int hp

/-- **ratio law on the returned pattern**: `p_i · i = p_{i-1} · λ` with `λ = mass / lambda_factor` -/
theorem poisson_ratio (mass : Rat) (n : Nat) (z : Int) (lf ns pr : Rat) (_hm : 0 ≤ mass) (_hlf : 0 < lf)
    (i : Nat) (hi : 1 ≤ i) (_hin : i < n)
    (p q : Peak) (hp : (poisson mass n z lf ns pr)[i]? = some p) (hq : (poisson mass n z lf ns pr)[i-1]? = some q) :
    p.int * (i : Rat) = q.int * (mass / lf) := by
  obtain ⟨k, rfl⟩ := Nat.exists_eq_add_one.mpr hi
  rw [poisson_eq_ladder] at hp hq
  rw [ladder_range_int hp, ladder_range_int hq, div_mul_eq_mul_div, pterm_step, mul_div_right_comm]
  rfl

/-- the generic search in one induction: the result `r` lies in `[i, maxIter]`, no index of `[i, r)` that the fuel
    reaches is below the target, and `r < maxIter` only by a hit within the fuel.  With enough fuel (`maxIter ≤ i + fuel`)
    `r` is the first index below the target, `maxIter` when none is. -/
theorem firstBelow_spec {α : Type} (below : α → α → Bool) (ratio : Nat → α) (target : α) (maxIter fuel i : Nat)
    (hi : i ≤ maxIter) :
    i ≤ firstBelow below ratio target maxIter fuel i ∧ firstBelow below ratio target maxIter fuel i ≤ maxIter ∧
    (∀ j, i ≤ j → j < firstBelow below ratio target maxIter fuel i → j < i + fuel → below (ratio j) target = false) ∧
    (firstBelow below ratio target maxIter fuel i < maxIter →
      firstBelow below ratio target maxIter fuel i < i + fuel ∧
      below (ratio (firstBelow below ratio target maxIter fuel i)) target = true) := by
  induction fuel generalizing i with
  | zero => exact ⟨hi, Nat.le_refl _, fun j h1 _ h3 => absurd h3 (Nat.not_lt.2 h1), fun h => absurd h (Nat.lt_irrefl _)⟩
  | succ f ih =>
    rw [firstBelow]
    by_cases hlt : i < maxIter
    · rw [if_pos hlt]
      cases hb : below (ratio i) target
      · obtain ⟨h1, h2, h3, h4⟩ := ih (i + 1) hlt
        rw [if_neg Bool.false_ne_true]
        refine ⟨Nat.le_of_succ_le h1, h2, fun j hij hj hjf => ?_, fun h => ⟨by have := (h4 h).1; omega, (h4 h).2⟩⟩
        rcases Nat.eq_or_lt_of_le hij with rfl | h
        · exact hb
        · exact h3 j h hj (by omega)
      · rw [if_pos rfl]
        exact ⟨Nat.le_refl _, hi, fun j hij hj => absurd hij (Nat.not_le.2 hj), fun _ => ⟨Nat.lt_add_of_pos_right f.succ_pos, hb⟩⟩
    · rw [if_neg hlt]
      exact ⟨hi, Nat.le_refl _, fun j hij hj => absurd (Nat.lt_of_le_of_lt hij hj) hlt, fun h => absurd h (Nat.lt_irrefl _)⟩

theorem firstBelow_le {α : Type} (below : α → α → Bool) (ratio : Nat → α) (target : α) (maxIter fuel i : Nat)
    (hi : i ≤ maxIter) : firstBelow below ratio target maxIter fuel i ≤ maxIter :=
  (firstBelow_spec below ratio target maxIter fuel i hi).2.1

/-- **monotonicity, for any arithmetic**: the returned count never decreases when the threshold `t` increases (i.e. the
    target decreases), provided everything below `tgt'` is below `tgt` (true of `<` on ℚ, and of `<` on `f64` since NaN
    compares false and `1.0 - t` is monotone): the first index below the smaller target comes no earlier -/
theorem firstBelow_mono {α : Type} (below : α → α → Bool) (ratio : Nat → α) (tgt tgt' : α)
    (h : ∀ x, below x tgt' = true → below x tgt = true) (maxIter fuel i : Nat) (hi : i ≤ maxIter) :
    firstBelow below ratio tgt maxIter fuel i ≤ firstBelow below ratio tgt' maxIter fuel i := by
  obtain ⟨_, h2, h3, _⟩ := firstBelow_spec below ratio tgt maxIter fuel i hi
  obtain ⟨h1', _, _, h4'⟩ := firstBelow_spec below ratio tgt' maxIter fuel i hi
  refine Nat.le_of_not_lt fun hlt => ?_
  obtain ⟨hf, hb⟩ := h4' (Nat.lt_of_lt_of_le hlt h2)
  exact Bool.false_ne_true ((h3 _ h1' hlt hf).symm.trans (h _ hb))

/-- the ratio compared at iteration `i ≥ 1`, read off the loop's list of ratios (`pratio` is its closed form) -/
def ratioAt (lam : Rat) (i : Nat) : Rat := (poissonRatios lam i 1 ⟨1, 1⟩ 1).getLastD 0

/-- the loop's accumulator after iteration `i`: `Σ_{m ≤ i} λ^m / m!` -/
def pacc (lam : Rat) (i : Nat) : Rat := ((List.range (i + 1)).map (pterm lam)).sum

theorem pacc_zero (lam : Rat) : pacc lam 0 = 1 := by simp [pacc, pterm_zero]

theorem pacc_succ (lam : Rat) (i : Nat) : pacc lam (i + 1) = pacc lam i + pterm lam (i + 1) := by
  simp only [pacc, List.range_succ (n := i + 1), List.map_append, List.sum_append, List.map_cons,
    List.map_nil, List.sum_cons, List.sum_nil, add_zero]

/-- partial sums `Σ_{m < n} λ^m / m!` -/
def psum (lam : Rat) : Nat → Rat
  | 0 => 0
  | n + 1 => psum lam n + pterm lam n

/-- the `i`-th ratio compared by the loop -/
def pratio (lam : Rat) (i : Nat) : Rat := pterm lam i / pacc lam i

theorem poissonNLoop_eq_firstBelow (lam target : Rat) (maxIter fuel m : Nat) :
    poissonNLoop lam target maxIter fuel (m + 1) (stateAt lam m) (pacc lam m) =
      firstBelow (fun x y => decide (x < y)) (pratio lam) target maxIter fuel (m + 1) := by
  induction fuel generalizing m with
  | zero => rfl
  | succ f ih =>
    simp only [poissonNLoop, firstBelow, pNext_stateAt, stateAt_cur, ← pacc_succ, ih, decide_eq_true_eq]
    rfl

theorem poissonN_eq_firstBelow (mass lf t : Rat) (maxIter : Nat) :
    poissonN mass lf t maxIter =
      firstBelow (fun x y => decide (x < y)) (pratio (mass / lf)) (1 - t) maxIter maxIter 1 := by
  have := poissonNLoop_eq_firstBelow (mass / lf) (1 - t) maxIter maxIter 0
  rwa [stateAt_zero, pacc_zero] at this

/-- `poisson_approximate_n_peaks_of` returns a count in `1 ..= 255` -/
theorem poissonN_range (mass lf t : Rat) (maxIter : Nat) (h : 1 ≤ maxIter) :
    1 ≤ poissonN mass lf t maxIter ∧ poissonN mass lf t maxIter ≤ maxIter := by
  rw [poissonN_eq_firstBelow]
  obtain ⟨h1, h2, _⟩ := firstBelow_spec (fun x y => decide (x < y)) (pratio (mass / lf)) (1 - t) maxIter maxIter 1 h
  exact ⟨h1, h2⟩

theorem poissonN_mono (mass lf t t' : Rat) (maxIter : Nat) (h : t ≤ t') (hm : 1 ≤ maxIter) :
    poissonN mass lf t maxIter ≤ poissonN mass lf t' maxIter := by
  rw [poissonN_eq_firstBelow, poissonN_eq_firstBelow]
  refine firstBelow_mono _ _ _ _ (fun x hx => ?_) _ _ _ hm
  simp only [decide_eq_true_eq] at hx ⊢
  exact lt_of_lt_of_le hx (sub_le_sub_left h 1)

/-- **minimality**: the loop returns `i` exactly when the `i`-th ratio is the first one below
    `1 - t`; `maxIter` when none is -/
theorem poissonNLoop_first (lam target : Rat) (maxIter fuel i : Nat) (s : PoisState) (acc : Rat)
    (hf : maxIter ≤ i + fuel) (hi : i ≤ maxIter) :
    poissonNLoop lam target maxIter fuel i s acc =
      match (poissonRatios lam (maxIter - i) i s acc).findIdx? (fun r => decide (r < target)) with
      | some j => i + j
      | none => maxIter := by
  -- case1 out of fuel (`hf` gives `maxIter ≤ i`) | case4 `i ≥ maxIter`: no ratios left;
  -- case2 the ratio at `i` is below the target | case3 it is not: the induction hypothesis at `i + 1`
  have hk : ∀ {i}, i < maxIter → maxIter - i = (maxIter - (i + 1)) + 1 := fun h =>
    (Nat.succ_pred_eq_of_pos (Nat.sub_pos_of_lt h)).symm
  fun_induction poissonNLoop lam target maxIter fuel i s acc with
  | case1 | case4 =>
    rw [show maxIter - _ = 0 by omega]
    rfl
  | case2 fuel i s acc hlt s' acc' h1 =>
    rw [hk hlt, poissonRatios, List.findIdx?_cons, if_pos (decide_eq_true h1)]
    rfl
  | case3 fuel i s acc hlt s' acc' h1 ih =>
    rw [hk hlt, poissonRatios, List.findIdx?_cons, if_neg (mt of_decide_eq_true h1), ih (by omega) hlt]
    cases (poissonRatios lam (maxIter - (i + 1)) (i + 1) s' acc').findIdx? (fun r => decide (r < target)) with
    | none => rfl
    | some j => exact Nat.add_right_comm i 1 j

theorem poissonRatios_stateAt (lam : Rat) (k m : Nat) :
    poissonRatios lam k (m + 1) (stateAt lam m) (pacc lam m) = (List.range' (m + 1) k).map (pratio lam) := by
  induction k generalizing m with
  | zero => rfl
  | succ k ih =>
    simp only [poissonRatios, pNext_stateAt, stateAt_cur, ← pacc_succ, ih, List.range'_succ, List.map_cons, pratio]

/-- **closed form of the compared ratios**: entry `j` is `t_{j+1} / Σ_{m ≤ j+1} t_m`, `t_m = λ^m / m!` -/
theorem poissonRatios_closed (lam : Rat) (k : Nat) :
    poissonRatios lam k 1 ⟨1, 1⟩ 1 = (List.range' 1 k).map (pratio lam) := by
  have h := poissonRatios_stateAt lam k 0
  rwa [stateAt_zero, pacc_zero] at h

theorem poissonRatios_closed_getElem (lam : Rat) (k j : Nat) (hj : j < (poissonRatios lam k 1 ⟨1, 1⟩ 1).length) :
    (poissonRatios lam k 1 ⟨1, 1⟩ 1)[j] =
      (lam ^ (j + 1) / ((j + 1).factorial : Rat)) /
        ((List.range (j + 2)).map (fun m => lam ^ m / (m.factorial : Rat))).sum := by
  have e : 1 + 1 * j = j + 1 := by rw [Nat.one_mul, Nat.add_comm]
  simp only [poissonRatios_closed, List.getElem_map, List.getElem_range', e]
  rfl

/-- **minimality in closed form**: the count `c` returned by `poisson_approximate_n_peaks_of` lies in
    `1 ..= maxIter`; no `i ∈ [1, c)` has `t_i / Σ_{m≤i} t_m < 1 - t`; and if `c < maxIter` then `c` itself has.
    I.e. `c` is the least `i ∈ [1, maxIter)` whose ratio is below `1 - t`, else `maxIter`. -/
theorem poissonN_minimal (mass lf t : Rat) (maxIter : Nat) (hm : 1 ≤ maxIter) :
    1 ≤ poissonN mass lf t maxIter ∧ poissonN mass lf t maxIter ≤ maxIter ∧
    (∀ i, 1 ≤ i → i < poissonN mass lf t maxIter → ¬ pratio (mass / lf) i < 1 - t) ∧
    (poissonN mass lf t maxIter < maxIter → pratio (mass / lf) (poissonN mass lf t maxIter) < 1 - t) := by
  obtain ⟨h1, h2, h3, h4⟩ := firstBelow_spec (fun x y => decide (x < y)) (pratio (mass / lf)) (1 - t) maxIter maxIter 1 hm
  rw [← poissonN_eq_firstBelow] at h1 h2 h3 h4
  exact ⟨h1, h2, fun i hi1 hi2 => of_decide_eq_false (h3 i hi1 hi2 (Nat.lt_add_left 1 (Nat.lt_of_lt_of_le hi2 h2))),
    fun h => of_decide_eq_true (h4 h).2⟩

theorem poissonN_eq_of (mass lf t : Rat) (maxIter : Nat) (hm : 1 ≤ maxIter) (c : Nat)
    (hc1 : 1 ≤ c) (hc2 : c ≤ maxIter)
    (hbefore : ∀ i, 1 ≤ i → i < c → ¬ pratio (mass / lf) i < 1 - t)
    (hat : c < maxIter → pratio (mass / lf) c < 1 - t) :
    poissonN mass lf t maxIter = c := by
  obtain ⟨h1, h2, h3, h4⟩ := poissonN_minimal mass lf t maxIter hm
  rcases Nat.lt_trichotomy (poissonN mass lf t maxIter) c with h | h | h
  · exact absurd (h4 (Nat.lt_of_lt_of_le h hc2)) (hbefore _ h1 h)
  · exact h
  · exact absurd (hat (Nat.lt_of_lt_of_le h h2)) (h3 c hc1 h)

/-- non-vacuity: an actual pattern and an actual count -/
example : (poisson 1800 3 1 1800 1 1).map (·.int) = [2/5, 2/5, 1/5] := by decide +kernel
example : poissonN 1800 1800 (1/2) 255 = 2 := by decide +kernel

/-- non-vacuity of the closed forms -/
example : pratio 1 2 = 1 / 5 := by decide +kernel
example : poissonRatios 1 2 1 ⟨1, 1⟩ 1 = [1 / 2, 1 / 5] := by decide +kernel

end Chem
