import ChemProofs.Props.C13
/-
C14 — derived pattern operations agree with their step-wise definitions (exact arithmetic).
-/
namespace Chem
open Pattern

/-- `clone_drop_last` is the pattern without its last peak, renormalised (`rfl`: model and specification are the
    same text) -/
theorem dropLast_eq_spec (p : Pattern) : p.cloneDropLast = Spec.dropLast p := rfl

/-- `slice_normalized(a..b)` is the requested sub-range renormalised; an invalid range is the
    slice-index panic of the real code -/
theorem slice_eq_spec (p : Pattern) (a b : Nat) :
    (a ≤ b ∧ b ≤ p.peaks.length → p.sliceNormalized a b = .ok (Spec.slice p a b)) ∧
    (¬ (a ≤ b ∧ b ≤ p.peaks.length) → p.sliceNormalized a b = .error ()) := by
  unfold Pattern.sliceNormalized Spec.slice
  constructor <;> intro h <;> simp [h]

theorem peak_eqv_iff (tol : Rat) (a b : Peak) :
    Peak.eqv tol a b = (decide (ratAbs (a.mz - b.mz) ≤ tol) && decide (ratAbs (a.int - b.int) ≤ tol)) := by
  simp only [Peak.eqv, Bool.not_or, ← decide_not, not_lt]

theorem zipAll_eq (tol : Rat) (l1 l2 : List Peak) (hlen : l1.length = l2.length) :
    zipAll (Peak.eqv tol) l1 l2 = (List.range l1.length).all (fun i =>
      match l1[i]?, l2[i]? with
      | some x, some y => decide (ratAbs (x.mz - y.mz) ≤ tol) && decide (ratAbs (x.int - y.int) ≤ tol)
      | _, _ => false) := by
  induction l1 generalizing l2 with
  | nil => rfl
  | cons x xs ih =>
    cases l2 with
    | nil => cases hlen
    | cons y ys =>
      simp only [zipAll, List.length_cons, List.range_succ_eq_map, List.all_cons, List.all_map,
        List.getElem?_cons_zero, ih ys (Nat.succ.inj hlen), peak_eqv_iff]
      congr 1

/-- **two patterns compare equal only if they have the same number of peaks and every pair of
    corresponding peaks agrees within the tolerance** -/
theorem eqv_eq_spec (tol : Rat) (a b : Pattern) : a.eqv tol b = Spec.patternEq tol a b := by
  unfold Pattern.eqv Spec.patternEq
  by_cases h : a.peaks.length = b.peaks.length
  · rw [zipAll_eq tol _ _ h]
    rfl
  · rw [beq_eq_false_iff_ne.mpr h]
    rfl

theorem eqv_length (tol : Rat) (a b : Pattern) (h : a.eqv tol b = true) : a.peaks.length = b.peaks.length := by
  unfold Pattern.eqv at h
  simp only [Bool.and_eq_true, beq_iff_eq] at h
  exact h.1

/-- the fused operation under the one hypothesis its proof needs: the truncated prefix has positive total.
    The step-wise pipeline normalises, filters at `t2` and normalises again; by `ignoreBelow_scaleBy` that is one
    filter at `t2 · total` and one normalisation, which is what the fused loop computes. -/
theorem fused_eq_stepwise_of_pos (p : Pattern) (t1 t2 o : Rat)
    (htot : 0 < total (Spec.prefixReaching t1 p.peaks)) :
    (p.fused t1 t2 o).map (·.peaks) = Spec.stepwise p t1 t2 o := by
  obtain ⟨hpre, hacc⟩ := stopLoop_prefix t1 p.peaks
  unfold Pattern.fused Spec.stepwise Spec.truncateAfter
  cases hst : Pattern.stopLoop t1 p.peaks 0 0 with
  | mk s tt =>
    rw [hst] at hpre hacc
    simp only at hpre hacc
    simp only [hpre, hacc]
    generalize Spec.prefixReaching t1 p.peaks = pre at *
    rw [normalize_some ⟨pre, p.origin⟩ htot.ne']
    simp only
    rw [← ignore_eq_spec, ignoreBelow_scaleBy ⟨pre, p.origin⟩ htot t2]
    have hsplit := total_filter_split pre (fun q => decide (t2 * total pre ≤ q.int))
    rw [← eq_sub_of_add_eq hsplit]
    unfold Pattern.ignoreBelow
    generalize pre.filter (fun q => decide (t2 * total pre ≤ q.int)) = kept
    cases kept with
    | nil => rfl
    | cons k0 ks =>
      by_cases h0 : total (k0 :: ks) = 0
      · simp [Pattern.normalize, h0]
      · rw [normalize_eq_div h0]
        simp [h0, Pattern.shift]

/-- **the fused operation returns the same peaks as `truncate_after`, then `ignore_below`, then
    `shift`** (for a non-empty pattern with positive intensities; exact arithmetic) -/
theorem fused_eq_stepwise (p : Pattern) (t1 t2 o : Rat) (hne : p.peaks ≠ []) (hpos : ∀ x ∈ p.peaks, 0 < x.int) :
    (p.fused t1 t2 o).map (·.peaks) = Spec.stepwise p t1 t2 o :=
  fused_eq_stepwise_of_pos p t1 t2 o
    (total_pos (prefixReaching_ne_nil t1 hne) fun x hx => hpos x (prefixReaching_subset t1 _ x hx))

theorem prefixSums_getD (xs : List Rat) (acc : Rat) (i : Nat) (hi : i < xs.length) :
    (Pattern.prefixSums xs acc).getD i 0 = acc + (xs.take (i + 1)).sum := by
  induction xs generalizing acc i with
  | nil => nomatch hi
  | cons x rest ih =>
    rw [Pattern.prefixSums, List.take_succ_cons, List.sum_cons]
    cases i with
    | zero => rw [List.getD_cons_zero, List.take_zero, List.sum_nil, add_zero]
    | succ j => rw [List.getD_cons_succ, ih (acc + x) j (Nat.lt_of_succ_lt_succ hi), add_assoc]

/-- the iterator's `index` is the last index of the current prefix, the specification counts its length `k`: hence
    `index := k - 1`.  Each step shortens the prefix by one peak, so fuel `≥ k` is enough. -/
theorem incrCollect_eq (tp : Pattern) (t : Rat) (k : Nat) (hk : k ≤ tp.peaks.length) (fuel : Nat) (hf : k ≤ fuel) :
    Pattern.incrCollect fuel
      { template := tp, threshold := t, index := k - 1,
        cumulative := Pattern.prefixSums (intensities tp.peaks) 0 } =
    Spec.incrFrom tp.peaks tp.origin t k := by
  induction k generalizing fuel with
  | zero =>
    cases fuel with
    | zero => rfl
    | succ f => rfl
  | succ k ih =>
    cases fuel with
    | zero => omega
    | succ f =>
      have hcum : (Pattern.prefixSums (intensities tp.peaks) 0).getD k 0 = total (tp.peaks.take (k + 1)) := by
        rw [prefixSums_getD _ _ _ (by rwa [intensities, List.length_map]), zero_add, total, intensities, intensities,
          List.map_take]
      simp only [Pattern.incrCollect, Pattern.IncrIter.next, Spec.incrFrom, Nat.add_sub_cancel, hcum]
      by_cases hc : 0 < k ∧ t < total (tp.peaks.take (k + 1))
      · have hc' : 2 ≤ k + 1 ∧ t < total (tp.peaks.take (k + 1)) := ⟨by omega, hc.2⟩
        have hslice : tp.sliceNormalized 0 (k + 1) = .ok (Pattern.normalize { peaks := tp.peaks.take (k + 1), origin := tp.origin }) :=
          (slice_eq_spec tp 0 (k + 1)).1 ⟨Nat.zero_le _, hk⟩
        simp only [hc, hc', and_self, if_true, hslice]
        congr 1
        exact ih (by omega) f (by omega)
      · have hc' : ¬ (2 ≤ k + 1 ∧ t < total (tp.peaks.take (k + 1))) := fun h => hc ⟨by omega, h.2⟩
        simp only [hc, hc', if_false]

/-- **`incremental_truncation(t)` yields the normalised pattern and then each successively
    shorter prefix, renormalised, for as long as the prefix still covers more than `t` of the
    normalised signal and has at least two peaks** -/
theorem incr_eq_spec (p : Pattern) (t : Rat) : p.incrementalTruncation t = Spec.incremental p t := by
  unfold Pattern.incrementalTruncation Spec.incremental
  cases p.normalize with
  | none => rfl
  | some tp =>
    simp only [Pattern.IncrIter.new]
    rw [incrCollect_eq tp t tp.peaks.length (Nat.le_refl _) _ (Nat.le_succ _)]

/-- non-vacuity and the witness of the repaired defect D21 (zip-only equality) -/
example : (demo.eqv (1/1000) ⟨demo.peaks.take 2, 100⟩, zipAll (Peak.eqv (1/1000)) demo.peaks (demo.peaks.take 2)) = (false, true) := by
  decide +kernel

/-- witness of D19 / D20 on the repaired model: drop-last drops, the fused form keeps two peaks -/
example : (demo.cloneDropLast.map (·.peaks.length), (demo.fused (7/10) (3/10) 5).map (·.peaks.length),
    (Spec.stepwise demo (7/10) (3/10) 5).map (·.length)) = (some 3, some 2, some 2) := by decide +kernel

end Chem
