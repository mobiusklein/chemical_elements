import ChemProofs.Lemmas.Rounding
/-
Floating-point error bounds (standard model, `Model/Float.lean`) for `total`, `normalize`,
`mass_charge_ratio` / `neutral_mass`.  The `fl…` functions work on bare lists of intensities and are a second
transcription of the Rust operations, beside the exact `Pattern` model of `Model/Peaks.lean`; no theorem relates
the two (not even at `exactModel`).  What ties this layer to the code is that the checks assert the bounds proved
here on the real `f64` outputs.
-/
namespace Chem

theorem rnd_bounds_nonpos {F : FlModel} (hF : F.OK) {x : ℚ} (hx : x ≤ 0) :
    (1 + F.u) * x ≤ F.rnd x ∧ F.rnd x ≤ (1 - F.u) * x := by
  have h := rnd_abs hF x
  rw [abs_of_nonpos hx, mul_neg, ← neg_mul] at h
  -- relative error `-u` of a non-positive number
  have := Within.of_abs_sub_le h
  rwa [sub_neg_eq_add, ← sub_eq_add_neg] at this

theorem flSum_singleton (F : FlModel) (x : ℚ) : flSum F [x] = F.rnd x := congrArg F.rnd (zero_add x)

theorem flSum_bounds {F : FlModel} (hF : F.OK) {l : List ℚ} (hl : ∀ x ∈ l, 0 ≤ x)
    (hu : F.u ≤ 1) :
    (1 - F.u) ^ l.length * l.sum ≤ flSum F l ∧ flSum F l ≤ (1 + F.u) ^ l.length * l.sum := by
  have := foldl_within hF hu l 0 hl le_rfl
  rwa [zero_add] at this

theorem flSum_pos_of_nonneg {F : FlModel} (hF : F.OK) {l : List ℚ} (hl : ∀ x ∈ l, 0 ≤ x)
    (hpos : ∃ x ∈ l, 0 < x) (hu : F.u < 1) : 0 < l.sum ∧ 0 < flSum F l := by
  obtain ⟨x, hx, hx0⟩ := hpos
  have hS := hx0.trans_le (List.single_le_sum hl x hx)
  exact ⟨hS, Within.pos (flSum_bounds hF hl hu.le) (one_sub_pow_pos hu _) hS⟩

theorem flSum_pos {F : FlModel} (hF : F.OK) {l : List ℚ} (hne : l ≠ []) (hl : ∀ x ∈ l, 0 < x)
    (hu : F.u < 1) : 0 < l.sum ∧ 0 < flSum F l := by
  obtain ⟨x, hx⟩ := List.exists_mem_of_ne_nil l hne
  exact flSum_pos_of_nonneg hF (fun y hy => (hl y hy).le) ⟨x, hx, hl x hx⟩ hu

/-
`normalize` multiplies by `rnd (1 / T)`, the Poisson generator and the fused operation divide by `T`, with
`T` a computed total.  Both are "scale by `r` and round" with `r` within some factors `[c, d]` of `1 / S`,
`S` the exact total: the next lemmas, for one entry and for the exact sum of all of them.
-/

theorem rnd_mul_within {F : FlModel} (hF : F.OK) (hu : F.u ≤ 1) {c d S r x : ℚ}
    (hr : Within c d (1 / S) r) (hr0 : 0 ≤ r) (hx : 0 ≤ x) :
    Within ((1 - F.u) * c) ((1 + F.u) * d) (x / S) (F.rnd (x * r)) := by
  rw [div_eq_mul_one_div]
  exact (hr.mul_left hx).rnd hF hu (mul_nonneg hx hr0)

theorem sum_map_rnd_bounds {F : FlModel} (hF : F.OK) {r : ℚ} (hr : 0 ≤ r) :
    ∀ (l : List ℚ), (∀ x ∈ l, 0 ≤ x) →
      (1 - F.u) * (l.sum * r) ≤ (l.map fun x => F.rnd (x * r)).sum ∧
      (l.map fun x => F.rnd (x * r)).sum ≤ (1 + F.u) * (l.sum * r) :=
  fun _ hl => Within.sum_map_mul fun x hx => rnd_bounds hF (mul_nonneg (hl x hx) hr)

theorem sum_map_rnd_mul_bounds {F : FlModel} (hF : F.OK) (hu : F.u ≤ 1) {l : List ℚ}
    (hl : ∀ x ∈ l, 0 ≤ x) (hS : 0 < l.sum) {c d r : ℚ} (hr : Within c d (1 / l.sum) r) (hr0 : 0 ≤ r) :
    (1 - F.u) * c ≤ (l.map fun x => F.rnd (x * r)).sum ∧
    (l.map fun x => F.rnd (x * r)).sum ≤ (1 + F.u) * d := by
  have h := (hr.mul_left hS.le).trans (sum_map_rnd_bounds hF hr0 l hl)
    (sub_nonneg.2 hu) (one_add_u_nonneg hF)
  rwa [Within, mul_one_div_cancel hS.ne', mul_one, mul_one] at h

theorem sum_map_rnd_div_of_within {F : FlModel} (hF : F.OK) (hu : F.u ≤ 1) {l : List ℚ}
    (hl : ∀ x ∈ l, 0 ≤ x) (hS : 0 < l.sum) {a b T : ℚ} (hT : Within a b l.sum T) (ha : 0 < a) :
    (1 - F.u) / b ≤ (l.map fun x => F.rnd (x / T)).sum ∧
    (l.map fun x => F.rnd (x / T)).sum ≤ (1 + F.u) / a := by
  have h := sum_map_rnd_mul_bounds hF hu hl hS (hT.one_div ha hS)
    (one_div_nonneg.2 (hT.pos ha hS).le)
  simp only [mul_one_div] at h
  exact h

theorem recip_flSum_within {F : FlModel} (hF : F.OK) {l : List ℚ} (hne : l ≠ [])
    (hl : ∀ x ∈ l, 0 < x) (hu : F.u < 1) :
    Within ((1 - F.u) / (1 + F.u) ^ l.length) ((1 + F.u) / (1 - F.u) ^ l.length) (1 / l.sum)
      (F.rnd (1 / flSum F l)) := by
  obtain ⟨hS, hT⟩ := flSum_pos hF hne hl hu
  have := (Within.one_div (flSum_bounds hF (fun x hx => (hl x hx).le) hu.le)
    (one_sub_pow_pos hu _) hS).rnd hF hu.le (one_div_nonneg.2 hT.le)
  rwa [mul_one_div, mul_one_div] at this

theorem recip_bounds {F : FlModel} (hF : F.OK) {l : List ℚ} (hne : l ≠ []) (hl : ∀ x ∈ l, 0 < x)
    (hu : F.u < 1) :
    (1 - F.u) / ((1 + F.u) ^ l.length * l.sum) ≤ F.rnd (1 / flSum F l) ∧
    F.rnd (1 / flSum F l) ≤ (1 + F.u) / ((1 - F.u) ^ l.length * l.sum) := by
  have := recip_flSum_within hF hne hl hu
  rwa [Within, div_mul_div_comm, div_mul_div_comm, mul_one, mul_one] at this

theorem recip_nonneg {F : FlModel} (hF : F.OK) {l : List ℚ} (hne : l ≠ []) (hl : ∀ x ∈ l, 0 < x)
    (hu : F.u < 1) : 0 ≤ F.rnd (1 / flSum F l) :=
  rnd_nonneg hF hu.le (one_div_nonneg.2 (flSum_pos hF hne hl hu).2.le)

theorem flNormalize_sum {F : FlModel} (hF : F.OK) {l : List ℚ} (hne : l ≠ [])
    (hl : ∀ x ∈ l, 0 < x) (hu : F.u < 1) :
    (1 - F.u) ^ 2 / (1 + F.u) ^ l.length ≤ (flNormalize F l).sum ∧
    (flNormalize F l).sum ≤ (1 + F.u) ^ 2 / (1 - F.u) ^ l.length := by
  rw [sq, sq, mul_div_assoc, mul_div_assoc]
  exact sum_map_rnd_mul_bounds hF hu.le (fun x hx => (hl x hx).le) (flSum_pos hF hne hl hu).1
    (recip_flSum_within hF hne hl hu) (recip_nonneg hF hne hl hu)

theorem flNormalize_getElem? {F : FlModel} {l : List ℚ} {i : Nat} {x y : ℚ}
    (hx : l[i]? = some x) (hy : (flNormalize F l)[i]? = some y) :
    y = F.rnd (x * F.rnd (1 / flSum F l)) := by
  simp only [flNormalize, List.getElem?_map, hx, Option.map_some, Option.some.injEq] at hy
  exact hy.symm

theorem flNormalize_entry {F : FlModel} (hF : F.OK) {l : List ℚ} (hne : l ≠ [])
    (hl : ∀ x ∈ l, 0 < x) (hu : F.u < 1) {i : Nat} {x y : ℚ}
    (hx : l[i]? = some x) (hy : (flNormalize F l)[i]? = some y) :
    (1 - F.u) ^ 2 / (1 + F.u) ^ l.length * (x / l.sum) ≤ y ∧
    y ≤ (1 + F.u) ^ 2 / (1 - F.u) ^ l.length * (x / l.sum) := by
  rw [flNormalize_getElem? hx hy, sq, sq, mul_div_assoc, mul_div_assoc]
  exact rnd_mul_within hF hu.le (recip_flSum_within hF hne hl hu) (recip_nonneg hF hne hl hu)
    (hl x (List.mem_of_getElem? hx)).le

/-- ratios of computed intensities are the ratios of the inputs up to `(1 + u) / (1 - u)`: both
entries are multiplied by the same reciprocal, only the final rounding differs -/
theorem flNormalize_ratio {F : FlModel} (hF : F.OK) {l : List ℚ} (hne : l ≠ [])
    (hl : ∀ x ∈ l, 0 < x) (hu : F.u < 1) {i j : Nat} {xi xj yi yj : ℚ}
    (hxi : l[i]? = some xi) (hyi : (flNormalize F l)[i]? = some yi)
    (hxj : l[j]? = some xj) (hyj : (flNormalize F l)[j]? = some yj) :
    yi * xj * (1 - F.u) ≤ yj * xi * (1 + F.u) := by
  have hxip : 0 ≤ xi := (hl xi (List.mem_of_getElem? hxi)).le
  have hxjp : 0 ≤ xj := (hl xj (List.mem_of_getElem? hxj)).le
  rw [flNormalize_getElem? hxi hyi, flNormalize_getElem? hxj hyj]
  have hr := recip_nonneg hF hne hl hu
  generalize F.rnd (1 / flSum F l) = r at hr ⊢
  have h1 := mul_le_mul_of_nonneg_right (mul_le_mul_of_nonneg_right
    (rnd_bounds hF (mul_nonneg hxip hr)).2 hxjp) (sub_nonneg.2 hu.le)
  have h2 := mul_le_mul_of_nonneg_right (mul_le_mul_of_nonneg_right
    (rnd_bounds hF (mul_nonneg hxjp hr)).1 hxip) (one_add_u_nonneg hF)
  linarith only [h1, h2]

theorem flNormalize_sum_f64 {F : FlModel} (hF : F.OK) (hu : F.u = 1 / 2 ^ 53) {l : List ℚ}
    (hne : l ≠ []) (hl : ∀ x ∈ l, 0 < x) (hn : l.length ≤ 64) :
    ratAbs ((flNormalize F l).sum - 1) ≤ 1 / 10 ^ 14 := by
  have hu1 := f64_u_lt_one hu
  have h := flNormalize_sum hF hne hl hu1
  rw [ratAbs_eq_abs]
  -- 66 roundings: at most 64 in the total, the reciprocal, the product
  refine abs_sub_one_le_of_pow_bounds hF.1 hu1 (k := 66) (Nat.add_le_add_left hn 2) ?_ ?_ h.1 h.2
  all_goals
    rw [hu]
    norm_num

/-- `neutral_mass (mass_charge_ratio m z c) z c` against `m`, with the exact error polynomial and no
smallness condition on `u` -/
theorem flNeutral_flMz_poly {F : FlModel} (hF : F.OK) (m c : ℚ) {z : Int} (hz : z ≠ 0) :
    ratAbs (flNeutral F (flMz F m z c) z c - m) ≤
      ((1 + F.u) ^ 4 - 1) * ratAbs m
        + (1 + F.u) ^ 2 * ((1 + F.u) ^ 3 - 1) * ratAbs ((z : ℚ) * c) := by
  have ha : ((z.natAbs : Nat) : ℚ) ≠ 0 := Nat.cast_ne_zero.mpr (Int.natAbs_ne_zero.mpr hz)
  unfold flNeutral flMz
  rw [ratAbs_eq_abs, ratAbs_eq_abs, ratAbs_eq_abs, div_eq_mul_inv]
  -- `w` is the rounded carrier `z c`: it enters and leaves as the same number, at most `(1 + u) |z c|`
  have hw := abs_le_of_relerr (rnd_abs hF ((z : ℚ) * c))
  generalize F.rnd ((z : ℚ) * c) = w at hw ⊢
  generalize ((z.natAbs : Nat) : ℚ) = a at ha ⊢
  -- three roundings between `m + w` and the product that `w` is subtracted from
  have h3 : |F.rnd (F.rnd (F.rnd (m + w) * a⁻¹) * a) - (m + w) * a⁻¹ * a|
      ≤ ((1 + F.u) ^ 3 - 1) * |(m + w) * a⁻¹ * a| :=
    relerr_rnd hF (relerr_mul_right a (relerr_rnd hF (relerr_mul_right a⁻¹
      (relerr_rnd hF (k := 0) (x := m + w) (by rw [sub_self, abs_zero, pow_zero, sub_self, zero_mul])))))
  rw [inv_mul_cancel_right₀ ha] at h3
  refine (sub_rnd_err hF.1 (h3.trans (mul_le_mul_of_nonneg_left ((abs_add_le m w).trans
    (add_le_add_right hw _)) (pow_sub_one_nonneg hF.1 3))) (rnd_abs hF _)).trans_eq ?_
  ring

/-- the chord of the convex `u ↦ (1 + u)^n - 1` over `[0, U]` -/
theorem pow_sub_one_chord {u U : ℚ} (h0 : 0 ≤ u) (hU : u ≤ U) :
    ∀ n : Nat, U * ((1 + u) ^ n - 1) ≤ u * ((1 + U) ^ n - 1) := fun n => by
  induction n with
  | zero => simp
  | succ n ih =>
    have hg := pow_sub_one_nonneg (h0.trans hU) n
    have h1 := mul_le_mul_of_nonneg_right ih (le_add_of_le_of_nonneg zero_le_one h0)
    have h2 := mul_le_mul_of_nonneg_left (add_le_add_right hU 1) (mul_nonneg h0 hg)
    rw [pow_succ, pow_succ]
    linarith only [h1, h2]

/-- ... so a bound `c U` at the right end gives `c u` throughout, also under a further power of `1 + u` -/
theorem pow_mul_pow_sub_one_le_mul {u U c : ℚ} (h0 : 0 ≤ u) (hU : u ≤ U) (hU0 : 0 < U) (p : Nat) {n : Nat}
    (hc : (1 + U) ^ p * ((1 + U) ^ n - 1) ≤ c * U) : (1 + u) ^ p * ((1 + u) ^ n - 1) ≤ c * u := by
  refine le_of_mul_le_mul_left ?_ hU0
  calc U * ((1 + u) ^ p * ((1 + u) ^ n - 1)) = (1 + u) ^ p * (U * ((1 + u) ^ n - 1)) := mul_left_comm ..
    _ ≤ (1 + U) ^ p * (u * ((1 + U) ^ n - 1)) :=
      mul_le_mul (pow_le_pow_left₀ (le_add_of_le_of_nonneg zero_le_one h0) (add_le_add_right hU 1) p)
        (pow_sub_one_chord h0 hU n) (mul_nonneg hU0.le (pow_sub_one_nonneg h0 n))
        (pow_nonneg (le_add_of_le_of_nonneg zero_le_one hU0.le) p)
    _ = u * ((1 + U) ^ p * ((1 + U) ^ n - 1)) := mul_left_comm ..
    _ ≤ u * (c * U) := mul_le_mul_of_nonneg_left hc h0
    _ = U * (c * u) := by ring

/-- sharpest integer constant under `u ≤ 1/8` -/
theorem flNeutral_flMz_sharp {F : FlModel} (hF : F.OK) (hu : F.u ≤ 1 / 8) (m c : ℚ) {z : Int}
    (hz : z ≠ 0) :
    ratAbs (flNeutral F (flMz F m z c) z c - m) ≤
      5 * F.u * (ratAbs m + ratAbs ((z : ℚ) * c)) := by
  have q1 := pow_mul_pow_sub_one_le_mul hF.1 hu (by norm_num) 0 (n := 4) (c := 5) (by norm_num)
  have q2 := pow_mul_pow_sub_one_le_mul hF.1 hu (by norm_num) 2 (n := 3) (c := 5) (by norm_num)
  rw [pow_zero, one_mul] at q1
  rw [mul_add]
  exact (flNeutral_flMz_poly hF m c hz).trans (add_le_add
    (mul_le_mul_of_nonneg_right q1 (ratAbs_nonneg _)) (mul_le_mul_of_nonneg_right q2 (ratAbs_nonneg _)))

/-- `flNeutral_flMz_sharp` with the rounder constants 8 and 2 in place of 5 and 1 -/
theorem flNeutral_flMz {F : FlModel} (hF : F.OK) (hu : F.u ≤ 1 / 8) (m c : ℚ) {z : Int}
    (hz : z ≠ 0) :
    ratAbs (flNeutral F (flMz F m z c) z c - m) ≤
      8 * F.u * (ratAbs m + 2 * ratAbs ((z : ℚ) * c)) := by
  have n2 := ratAbs_nonneg ((z : ℚ) * c)
  refine (flNeutral_flMz_sharp hF hu m c hz).trans (mul_le_mul
    (mul_le_mul_of_nonneg_right (by norm_num) hF.1) (by linarith only [n2])
    (add_nonneg (ratAbs_nonneg m) n2) (mul_nonneg (by norm_num) hF.1))

def exactModel : FlModel := ⟨fun x => x, 0⟩

example : exactModel.OK := FlModel.OK_exact le_rfl

/-- a model that really perturbs: every result is off by the full relative error `u = 1/8`; it
satisfies `OK` and the smallness condition `u ≤ 1/8` of `flNeutral_flMz` -/
example : (⟨fun x => x * (1 + 1 / 8), 1 / 8⟩ : FlModel).OK := FlModel.OK_perturb (by decide +kernel)

example : (flNormalize exactModel [1 / 2, 1 / 4, 1 / 4]).sum = 1 := by decide +kernel

example : flNormalize exactModel [2, 1, 1] = [1 / 2, 1 / 4, 1 / 4] := by decide +kernel

example : flNeutral exactModel (flMz exactModel 1000 (-2) (1007276 / 1000000)) (-2) (1007276 / 1000000)
    = 1000 := by decide +kernel

end Chem
