import ChemProofs.Model.Formula
import ChemProofs.Lemmas.PStep
import ChemProofs.Lemmas.Pend
/-
Property C05 — panic-freedom (totality) of the formula parser model: `parseFormula cc T s` never produces
`.panic`, for every character class, table and text.  In the model a panic has two sources: a slice
`&string[a..b]` with `¬(a ≤ b ∧ b ≤ len)`, and exhaustion of the recursion fuel of `parseA`.

* `Inv p i` bounds the offsets of the parser state at position `i`.  Under it the flush of the pending term
  does not panic; a loop iteration either goes on with the pending term, which is arithmetic on the offsets,
  or flushes it and starts the next one.
* A group body is the slice `gs..ge` with `1 ≤ gs` and `ge < len`, at least two characters shorter than its
  parent, so `len + 1` levels of fuel suffice, and surplus fuel does not change the result: the parser on pieces
  (`arun`, `Lemmas/Pend.lean`) asks the level below only for such bodies (`arun_congr`).
-/
namespace Chem

theorem slice_safe {s : List Nat} {a b : Nat} (hab : a ≤ b) (hb : b ≤ s.length) :
    (slice s a b).Safe (fun r => r.length = b - a) := by
  unfold slice
  rw [if_pos ⟨hab, hb⟩]
  show ((s.take b).drop a).length = b - a
  rw [List.length_drop, List.length_take, Nat.min_eq_left hb]

theorem lookupElem_safe (T : Table) (s : List Nat) (p : PState)
    (h1 : p.es ≤ p.ee) (h2 : p.ee ≤ s.length) :
    (lookupElem T s p).Safe (fun r => r.2 = { p with es := 0, ee := 0 }) :=
  lookupElem_ofOpt p ▸ (slice_safe h1 h2).bind fun _ _ => Res.ofOpt_safe.bind fun _ _ => rfl

theorem elemCount_safe (s : List Nat) (p : PState)
    (h1 : p.cs ≤ p.ce) (h2 : p.ce ≤ s.length) :
    (elemCount s p).Safe (fun r => r.2 = { p with cs := 0, ce := 0 }) :=
  elemCount_ofOpt p ▸ (slice_safe h1 h2).bind fun _ _ => Res.ofOpt_safe.bind fun _ _ => rfl

theorem groupCount_safe (s : List Nat) (p : PState)
    (h1 : p.gcs ≤ p.gce) (h2 : p.gce ≤ s.length) :
    (groupCount s p).Safe (fun r => r.2 = { p with gcs := 0, gce := 0 }) :=
  groupCount_ofOpt p ▸ (slice_safe h1 h2).bind fun _ _ => Res.ofOpt_safe.bind fun _ _ => rfl

theorem isoNumber_safe (s : List Nat) (p : PState)
    (h1 : p.is ≤ p.ie) (h2 : p.ie ≤ s.length) :
    (isoNumber s p).Safe (fun _ => True) :=
  isoNumber_ofOpt p ▸ (slice_safe h1 h2).bind fun _ _ => Res.ofOpt_safe

theorem mkKey_safe (e : Elem) (iso : Nat) : (mkKey e iso).Safe (fun _ => True) := by
  unfold mkKey
  split <;> trivial

theorem flushElem_safe (T : Table) (s : List Nat) (p : PState) (acc : Ents)
    (h1 : p.es ≤ p.ee) (h2 : p.ee ≤ s.length) :
    (flushElem T s p acc).Safe (fun r => r.1 = { p with es := 0, ee := 0 }) := by
  unfold flushElem
  exact (lookupElem_safe T s p h1 h2).bind fun _ hq => hq

theorem flushIso_safe (T : Table) (s : List Nat) (p : PState) (acc : Ents)
    (h1 : p.es ≤ p.ee) (h2 : p.ee ≤ s.length) (h3 : p.is ≤ p.ie) (h4 : p.ie ≤ s.length) :
    (flushIso T s p acc).Safe (fun r => r.1 = { p with es := 0, ee := 0, is := 0, ie := 0 }) := by
  unfold flushIso
  refine (lookupElem_safe T s p h1 h2).bind ?_
  rintro ⟨e, q⟩ (rfl : q = _)
  exact (isoNumber_safe s _ h3 h4).bind fun iso _ => (mkKey_safe e iso).bind fun _ _ => rfl

theorem flushCount_safe (T : Table) (s : List Nat) (p : PState) (acc : Ents)
    (h1 : p.es ≤ p.ee) (h2 : p.ee ≤ s.length) (h3 : p.cs ≤ p.ce) (h4 : p.ce ≤ s.length)
    (h5 : p.ie = p.is ∨ (p.is ≤ p.ie ∧ p.ie ≤ s.length)) :
    (flushCount T s p acc).Safe (fun r =>
      r.1 = { p with es := 0, ee := 0, cs := 0, ce := 0, is := 0, ie := 0 }) := by
  unfold flushCount
  refine (elemCount_safe s p h3 h4).bind ?_
  rintro ⟨n, q⟩ (rfl : q = _)
  have hiso : ∀ q : PState, q.ie = q.is ∨ (q.is ≤ q.ie ∧ q.ie ≤ s.length) →
      (if q.ie != q.is then isoNumber s q else Res.ok 0).Safe (fun _ => True) := fun q h5 =>
    Res.Safe.ite (fun hne => (h5.resolve_left (by simpa using hne)).elim (isoNumber_safe s q)) fun _ => trivial
  refine (hiso _ h5).bind fun iso _ => ?_
  refine (lookupElem_safe T s { p with cs := 0, ce := 0 } h1 h2).bind ?_
  rintro ⟨e, q⟩ (rfl : q = _)
  exact (mkKey_safe e iso).bind fun _ _ => rfl

/-- the invariant of the parser state before the character at position `i`
    (`i = s.length` after the loop) -/
def Inv (p : PState) (i : Nat) : Prop :=
  match p.st with
  | .new => p.ie = p.is
  | .element => p.es ≤ i ∧ p.ie = p.is
  | .isotope => p.es ≤ p.ee ∧ p.ee ≤ i ∧ p.is ≤ i
  | .isotopeToCount => p.es ≤ p.ee ∧ p.ee ≤ i ∧ p.is ≤ p.ie ∧ p.ie ≤ i
  | .count => p.es ≤ p.ee ∧ p.ee ≤ i ∧ p.cs ≤ i ∧ (p.ie = p.is ∨ (p.is ≤ p.ie ∧ p.ie ≤ i))
  | .group => 1 ≤ p.gs ∧ p.gs ≤ i ∧ p.ie = p.is
  | .groupToGroupCount => 1 ≤ p.gs ∧ p.gs ≤ p.ge ∧ p.ge < i ∧ p.ie = p.is
  | .groupCount => 1 ≤ p.gs ∧ p.gs ≤ p.ge ∧ p.ge < i ∧ p.gcs ≤ i ∧ p.ie = p.is

theorem inv_init : Inv {} 0 := rfl

theorem Inv.mono {p : PState} {i j : Nat} (h : Inv p i) (hij : i ≤ j) : Inv p j := by
  have up {a : Nat} (ha : a ≤ i) : a ≤ j := Nat.le_trans ha hij
  unfold Inv at h ⊢
  -- every `i` of `Inv` stands on the right of a `≤` or `<`; as terms because eight `omega` calls on conjunctions cost ten times as much
  split at h
  · exact h
  · exact ⟨up h.1, h.2⟩
  · exact ⟨h.1, up h.2.1, up h.2.2⟩
  · exact ⟨h.1, up h.2.1, h.2.2.1, up h.2.2.2⟩
  · exact ⟨h.1, up h.2.1, up h.2.2.1, h.2.2.2.imp_right (.imp_right up)⟩
  · exact ⟨h.1, up h.2.1, h.2.2⟩
  · exact ⟨h.1, h.2.1, up h.2.2.1, h.2.2.2⟩
  · exact ⟨h.1, h.2.1, up h.2.2.1, up h.2.2.2.1, h.2.2.2.2⟩

theorem Inv.element {q : PState} {j : Nat} (hst : q.st = .element) (h1 : q.es ≤ j) (h2 : q.ie = q.is) :
    Inv q j := by
  unfold Inv; rw [hst]; exact ⟨h1, h2⟩

theorem Inv.group {q : PState} {j : Nat} (hst : q.st = .group) (h0 : 1 ≤ q.gs) (h1 : q.gs ≤ j)
    (h2 : q.ie = q.is) : Inv q j := by
  unfold Inv; rw [hst]; exact ⟨h0, h1, h2⟩

theorem afterTerm_inv {p : PState} {i c : Nat} {b : Bool} {u : Nat → Bool} (hp : p.ie = p.is) :
    (afterTerm p i c b u).Safe (fun q => Inv q (i + 1)) := by
  unfold afterTerm
  apply Res.Safe.ite <;> intro _
  · exact Res.Safe.ok_intro (Inv.group rfl (Nat.succ_pos i) (Nat.le_refl _) hp)
  · apply Res.Safe.ite <;> intro _
    · exact Res.Safe.ok_intro (Inv.element rfl (Nat.le_succ i) hp)
    · trivial

/-- the recursive parser does not panic on anything short enough to be a group body of `s` -/
def SubOK (sub : List Nat → Res Ents) (s : List Nat) : Prop :=
  ∀ b : List Nat, b.length + 2 ≤ s.length → sub b ≠ .panic

theorem body_safe {sub : List Nat → Res Ents} {s : List Nat} (hsub : SubOK sub s)
    {gs ge : Nat} (h1 : 1 ≤ gs) (h2 : gs ≤ ge) (h3 : ge < s.length) {β} {f : Ents → Res β}
    {Q : β → Prop} (hf : ∀ g, (f g).Safe Q) :
    ((slice s gs ge).bind fun body => (sub body).bind f).Safe Q := by
  refine (slice_safe h2 (Nat.le_of_lt h3)).bind ?_
  intro body (hb : body.length = ge - gs)
  have hlt : body.length < ge := hb ▸ Nat.sub_lt (Nat.lt_of_lt_of_le h1 h2) h1
  exact (Res.safe_of_ne_panic (hsub body (Nat.le_trans (Nat.succ_le_succ hlt) h3))).bind fun g _ => hf g

theorem flushAt_safe {T : Table} {sub : List Nat → Res Ents} {s : List Nat} (hsub : SubOK sub s) {p : PState} {j : Nat}
    (hinv : Inv p j) (hj : j ≤ s.length) (acc : Ents) : (flushAt T sub s p acc j).Safe (fun r => r.1.ie = r.1.is) := by
  obtain ⟨es, ee, is, ie, cs, ce, paren, gs, ge, gcs, gce, st⟩ := p
  cases st <;> unfold Inv at hinv <;> dsimp only at hinv <;> unfold flushAt <;> dsimp only
  case new | group | isotope => trivial
  case element =>
    exact (flushElem_safe T s _ acc hinv.1 hj).mono fun r hr => by rw [hr]; exact hinv.2
  case count =>
    refine (flushCount_safe T s _ acc hinv.1 (Nat.le_trans hinv.2.1 hj) hinv.2.2.1 hj ?_).mono
      fun r hr => by rw [hr]
    exact hinv.2.2.2.imp id fun h => ⟨h.1, Nat.le_trans h.2 hj⟩
  case isotopeToCount =>
    exact (flushIso_safe T s _ acc hinv.1 (Nat.le_trans hinv.2.1 hj) hinv.2.2.1
      (Nat.le_trans hinv.2.2.2 hj)).mono fun r hr => by rw [hr]
  case groupToGroupCount =>
    exact body_safe hsub hinv.1 hinv.2.1 (Nat.lt_of_lt_of_le hinv.2.2.1 hj) fun g => hinv.2.2.2
  case groupCount =>
    refine body_safe hsub hinv.1 hinv.2.1 (Nat.lt_of_lt_of_le hinv.2.2.1 hj) fun g => ?_
    exact (groupCount_safe s _ hinv.2.2.2.1 hj).bind fun r hr => by rw [hr]; exact hinv.2.2.2.2

theorem pnext_safe {q : PState × Ents} (hq : q.1.ie = q.1.is) {i c : Nat} {b : Bool} {u : Nat → Bool} :
    (pnext q i c b u).Safe (fun r => Inv r.1 (i + 1)) :=
  (afterTerm_inv hq).bind fun _ h => h

/-- A character either continues the pending term — the successor is a literal state (or `p` itself:
    `Inv.mono`), and its invariant is arithmetic on the offsets — or ends it: the flush, then the start
    of the next term. -/
theorem pstep_safe (cc : CharClass) (T : Table) (sub : List Nat → Res Ents) (s : List Nat)
    (p : PState) (acc : Ents) (i c : Nat)
    (hsub : SubOK sub s) (hinv : Inv p i) (hi : i < s.length) :
    (pstep cc T sub s p acc i c).Safe (fun r => Inv r.1 (i + 1)) := by
  have hfl := flushAt_safe (T := T) hsub hinv (Nat.le_of_lt hi) acc
  have stay : (Res.ok (p, acc)).Safe (fun r => Inv r.1 (i + 1)) := hinv.mono (Nat.le_succ i)
  obtain ⟨es, ee, is, ie, cs, ce, paren, gs, ge, gcs, gce, st⟩ := p
  cases st <;> unfold Inv at hinv <;> dsimp only at hinv
  case new =>
    rw [pstep_new rfl]
    apply Res.Safe.ite <;> intro _
    · exact Res.Safe.ok_intro (Inv.element rfl (Nat.le_succ i) hinv)
    · apply Res.Safe.ite <;> intro _
      · exact Res.Safe.ok_intro (Inv.group rfl (Nat.succ_pos i) (Nat.le_refl _) hinv)
      · trivial
  case group =>
    have next : ∀ paren', Inv ⟨es, ee, is, ie, cs, ce, paren', gs, ge, gcs, gce, .group⟩ (i + 1) :=
      fun _ => Inv.group rfl hinv.1 (Nat.le_succ_of_le hinv.2.1) hinv.2.2
    rw [pstep_group rfl]
    apply Res.Safe.ite <;> intro _
    · apply Res.Safe.ite <;> intro _
      · exact show _ ∧ _ ∧ _ ∧ _ from ⟨hinv.1, hinv.2.1, Nat.lt_succ_self i, hinv.2.2⟩
      · exact next _
    · apply Res.Safe.ite <;> intro _
      · exact next _
      · exact stay
  case isotope =>
    rw [pstep_isotope rfl]
    apply Res.Safe.ite <;> intro _
    · exact show _ ∧ _ ∧ _ ∧ _ from ⟨hinv.1, Nat.le_succ_of_le hinv.2.1, hinv.2.2, Nat.le_succ i⟩
    · apply Res.Safe.ite <;> intro _
      · trivial
      · exact stay
  case element =>
    rw [pstep_element rfl]
    apply Res.Safe.ite <;> intro _
    · apply Res.Safe.ite <;> intro _
      · exact hfl.bind fun q hq => Res.Safe.ok_intro (Inv.element rfl (Nat.le_succ i) hq)
      · exact stay
    · apply Res.Safe.ite <;> intro _
      · exact show _ ∧ _ ∧ _ ∧ _ from ⟨hinv.1, Nat.le_succ i, Nat.le_succ i, Or.inl hinv.2⟩
      · apply Res.Safe.ite <;> intro _
        · exact show _ ∧ _ ∧ _ from ⟨hinv.1, Nat.le_succ i, Nat.le_refl _⟩
        · apply Res.Safe.ite <;> intro _
          · exact hfl.bind fun q hq => Res.Safe.ok_intro
              (Inv.group rfl (Nat.succ_pos i) (Nat.le_refl _) hq)
          · exact stay
  case count =>
    rw [pstep_count rfl]
    apply Res.Safe.ite <;> intro _
    · exact hfl.bind fun q hq => pnext_safe hq
    · exact stay
  case isotopeToCount =>
    rw [pstep_isotopeToCount rfl]
    apply Res.Safe.ite <;> intro _
    · exact show _ ∧ _ ∧ _ ∧ _ from ⟨hinv.1, Nat.le_succ_of_le hinv.2.1, Nat.le_succ i,
        Or.inr ⟨hinv.2.2.1, Nat.le_succ_of_le hinv.2.2.2⟩⟩
    · exact hfl.bind fun q hq => pnext_safe hq
  case groupToGroupCount =>
    rw [pstep_groupToGroupCount rfl]
    apply Res.Safe.ite <;> intro _
    · exact hfl.bind fun q hq => pnext_safe hq
    · exact show _ ∧ _ ∧ _ ∧ _ ∧ _ from
        ⟨hinv.1, hinv.2.1, Nat.lt_succ_of_lt hinv.2.2.1, Nat.le_succ i, hinv.2.2.2⟩
  case groupCount =>
    rw [pstep_groupCount rfl]
    apply Res.Safe.ite <;> intro _
    · exact hfl.bind fun q hq => pnext_safe hq
    · exact stay

theorem ploop_safe (cc : CharClass) (T : Table) (sub : List Nat → Res Ents) (s : List Nat)
    (hsub : SubOK sub s) :
    ∀ (rest : List Nat) (i : Nat) (p : PState) (acc : Ents), Inv p i → i + rest.length = s.length →
      (ploop cc T sub s rest i p acc).Safe (fun r => Inv r.1 s.length) := by
  intro rest
  induction rest with
  | nil =>
    intro i p acc hinv hlen
    rw [← hlen, List.length_nil, Nat.add_zero]
    exact hinv
  | cons c rest ih =>
    intro i p acc hinv (hlen : i + (rest.length + 1) = s.length)
    unfold ploop
    refine (pstep_safe cc T sub s p acc i c hsub hinv (hlen ▸ Nat.lt_add_of_pos_right (Nat.succ_pos _))).bind ?_
    rintro ⟨q, acc'⟩ hq
    exact ih (i + 1) q acc' hq ((Nat.add_right_comm i 1 rest.length).trans hlen)

theorem pfinish_safe (T : Table) (sub : List Nat → Res Ents) (s : List Nat)
    (p : PState) (acc : Ents) (hsub : SubOK sub s) (hinv : Inv p s.length) :
    (pfinish T sub s p acc).Safe (fun _ => True) := by
  rw [pfinish_eq]
  exact (flushAt_safe hsub hinv (Nat.le_refl _) acc).bind fun _ _ => trivial

/-- with more fuel than characters the parser never panics: neither a slice out of range nor
    fuel exhaustion (a nested body is at least two characters shorter than its parent) -/
theorem parseA_no_panic (cc : CharClass) (T : Table) :
    ∀ (fuel : Nat) (s : List Nat), s.length < fuel → parseA cc T fuel s ≠ .panic := by
  intro fuel
  induction fuel with
  | zero => exact fun _ h => absurd h (Nat.not_lt_zero _)
  | succ fuel ih =>
    intro s h
    have hsub : SubOK (parseA cc T fuel) s := fun b hb => ih b (by omega)
    unfold parseA
    refine Res.Safe.ne_panic (P := fun _ => True)
      ((ploop_safe cc T _ s hsub s 0 {} [] inv_init (Nat.zero_add _)).bind ?_)
    rintro ⟨p, acc⟩ hp
    exact pfinish_safe T _ s p acc hsub hp

/-- **C05**: the formula parser never panics, whatever the character class, table and text -/
theorem parse_no_panic (cc : CharClass) (T : Table) (s : List Nat) : parseFormula cc T s ≠ .panic :=
  parseA_no_panic cc T (s.length + 1) s (Nat.lt_succ_self _)

/-- the same statement in positive form: the outcome is a value or an error value -/
theorem parse_ok_or_err (cc : CharClass) (T : Table) (s : List Nat) :
    (∃ e, parseFormula cc T s = .ok e) ∨ parseFormula cc T s = .err := by
  have h := parse_no_panic cc T s
  cases hr : parseFormula cc T s with
  | ok e => exact Or.inl ⟨e, rfl⟩
  | err => exact Or.inr rfl
  | panic => exact (h hr).elim

theorem parseA_fuel_irrel (cc : CharClass) (T : Table) :
    ∀ (n m : Nat) (s : List Nat), s.length < n → s.length < m →
      parseA cc T n s = parseA cc T m s := by
  intro n
  induction n with
  | zero => exact fun _ _ h => absurd h (Nat.not_lt_zero _)
  | succ n ih =>
    intro m s hn hm
    cases m with
    | zero => exact absurd hm (Nat.not_lt_zero _)
    | succ m =>
      have lt {b : List Nat} (hb : b.length + 2 ≤ s.length) {k : Nat} (hk : s.length < k + 1) : b.length < k := by omega
      rw [parseA_succ, parseA_succ]
      exact arun_congr (n := s.length) (fun b hb => ih m b (lt hb hn) (lt hb hm)) s .new []
        (Nat.le_of_eq (Nat.zero_add _))

/-- the result does not depend on surplus fuel -/
theorem parse_fuel (cc : CharClass) (T : Table) (n : Nat) (s : List Nat) (h : s.length < n) :
    parseA cc T n s = parseFormula cc T s :=
  parseA_fuel_irrel cc T n (s.length + 1) s h (Nat.lt_succ_self _)

/-! ### non-vacuity: the parser computes, succeeds and fails on concrete inputs -/

def c05cc : CharClass := ⟨isAsciiAlpha, isAsciiDigit, isAsciiUpper⟩

/-- a three-element table: C (12, 13), H (1), O (16) -/
def c05T : Table :=
  [ { tkey := [67], sym := [67], isos := [⟨12, 12000000, 989300, 6, 0⟩, ⟨13, 13003355, 10700, 7, 1⟩],
      mostIso := 12, mostMass := 12000000, minShift := 0, maxShift := 1, elemNum := 6 },
    { tkey := [72], sym := [72], isos := [⟨1, 1007825, 999885, 0, 0⟩],
      mostIso := 1, mostMass := 1007825, minShift := 0, maxShift := 0, elemNum := 1 },
    { tkey := [79], sym := [79], isos := [⟨16, 15994915, 997570, 8, 0⟩],
      mostIso := 16, mostMass := 15994915, minShift := 0, maxShift := 0, elemNum := 8 } ]

/-- `C[13]H3(OH)2` -/
example : parseFormula c05cc c05T [67, 91, 49, 51, 93, 72, 51, 40, 79, 72, 41, 50] =
    .ok [(([67], 13), 1), (([72], 0), 5), (([79], 0), 2)] := by decide +kernel

/-- `C((O)2H)3` (nested groups: the recursion and its fuel are exercised) -/
example : parseFormula c05cc c05T [67, 40, 40, 79, 41, 50, 72, 41, 51] =
    .ok [(([67], 0), 1), (([79], 0), 6), (([72], 0), 3)] := by decide +kernel

/-- `C[14]` (carbon has no isotope 14 in this table), `X`, `(C`, `C)(` are error values -/
example : parseFormula c05cc c05T [67, 91, 49, 52, 93] = .err := by decide +kernel
example : parseFormula c05cc c05T [88] = .err := by decide +kernel
example : parseFormula c05cc c05T [40, 67] = .err := by decide +kernel
example : parseFormula c05cc c05T [67, 41, 40] = .err := by decide +kernel

/-- the `panic` outcome is reachable in the model (so `parse_no_panic` is not vacuous):
    a slice with bad offsets, and a nested group without fuel -/
example : slice [67, 72] 2 1 = .panic := by decide +kernel
example : parseA c05cc c05T 1 [40, 67, 41] = .panic := by decide +kernel

end Chem
