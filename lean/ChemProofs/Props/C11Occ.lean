import ChemProofs.Props.C11
import Mathlib.Data.Nat.Choose.Basic
import Mathlib.Data.List.Perm.Basic
/-
C11 (occupancy form) — as a multiset (`List.Perm`) the ordered arrangements of `n` atoms are obtained by choosing,
in `Nat.choose n k` ways, the `k` atoms that are not on the first isotope and arranging them over the rest
(`arrangementsOf_cons_perm`); for a two-isotope element these are the occupancies `k = 0..n` with binomial
multiplicities.  This ties the pruned python oracle of the C11 check (which walks occupancies) to `arrangementsOf`.
-/
namespace Chem

def binomWalk {α : Type} (F : Nat → α) (n : Nat) : List α :=
  (List.range (n + 1)).flatMap fun k => List.replicate (Nat.choose n k) (F k)

/-- Pascal's rule at the level of lists -/
theorem binomWalk_succ_perm {α : Type} (F : Nat → α) (n : Nat) :
    (binomWalk F (n + 1)).Perm (binomWalk F n ++ binomWalk (fun k => F (k + 1)) n) := by
  unfold binomWalk
  -- the walk with `choose n k` over `range (n+2)` is the walk over `range (n+1)` (last term is empty)
  have hA : (List.range (n + 1 + 1)).flatMap (fun k => List.replicate (Nat.choose n k) (F k))
      = (List.range (n + 1)).flatMap (fun k => List.replicate (Nat.choose n k) (F k)) := by
    rw [List.range_succ (n := n + 1), List.flatMap_append]
    simp [Nat.choose_succ_self]
  have hA' : (List.range (n + 1 + 1)).flatMap (fun k => List.replicate (Nat.choose n k) (F k))
      = [F 0] ++ (List.range (n + 1)).flatMap
          (fun k => List.replicate (Nat.choose n (k + 1)) (F (k + 1))) := by
    rw [List.range_succ_eq_map (n := n + 1), List.flatMap_cons, List.flatMap_map]
    simp
  have hL : (List.range (n + 1 + 1)).flatMap
        (fun k => List.replicate (Nat.choose (n + 1) k) (F k))
      = [F 0] ++ (List.range (n + 1)).flatMap (fun k =>
          List.replicate (Nat.choose n k) (F (k + 1)) ++
          List.replicate (Nat.choose n (k + 1)) (F (k + 1))) := by
    rw [List.range_succ_eq_map (n := n + 1), List.flatMap_cons, List.flatMap_map]
    simp [Nat.choose_succ_succ, List.replicate_add, - List.replicate_append_replicate]
  rw [hL, ← hA, hA']
  refine ((List.flatMap_append_perm _ _ _).symm.cons _).trans ?_
  simp only [List.cons_append]
  exact List.Perm.cons _ List.perm_append_comm

theorem binomWalk_map {α β : Type} (g : α → β) (F : Nat → α) (n : Nat) :
    (binomWalk F n).map g = binomWalk (fun k => g (F k)) n := by
  simp [binomWalk, List.map_flatMap]

theorem binomWalk_congr {α : Type} {F G : Nat → α} (n : Nat) (h : ∀ k, k ≤ n → F k = G k) :
    binomWalk F n = binomWalk G n := by
  unfold binomWalk
  refine List.flatMap_congr fun k hk => ?_
  rw [h k (Nat.lt_succ_iff.mp (List.mem_range.mp hk))]

/-- `j` further atoms on isotope `i` -/
def shiftBy (i : Rat × Rat) (j : Nat) (a : Rat × Rat) : Rat × Rat :=
  (a.1 + (j : Rat) * i.1, a.2 * i.2 ^ j)

theorem prod_flatten_perm (L : List Dist) (e : Dist) :
    (prod L.flatten e).Perm (L.map fun d => prod d e).flatten := by
  refine (prod_comm _ _).trans ?_
  induction L with
  | nil => simp [prod]
  | cons d L ih =>
    rw [List.flatten_cons, prod_append, List.map_cons, List.flatten_cons]
    exact (prod_comm e d).append ih

theorem prod_map_shiftBy (i : Rat × Rat) (j : Nat) (d e : Dist) :
    prod (d.map (shiftBy i j)) e = (prod d e).map (shiftBy i j) := by
  unfold prod
  rw [List.map_flatMap]
  refine List.flatMap_congr fun b _ => ?_
  rw [List.map_map, List.map_map]
  exact List.map_congr_left fun a _ => Prod.ext (add_right_comm ..) (mul_right_comm ..)

/-- For any isotope list `i :: rest`: choose the `k` atoms (in `Nat.choose n k` ways)
    that are NOT on isotope `i`, arrange them over `rest`, put the other `n - k` atoms on `i`.
    Iterating this over the list gives the multinomial walk of the python oracle. -/
theorem arrangementsOf_cons_perm (i : Rat × Rat) (rest : Dist) (n : Nat) :
    (arrangementsOf (i :: rest) n).Perm
      ((List.range (n + 1)).flatMap fun k =>
        (List.replicate (Nat.choose n k)
          ((arrangementsOf rest k).map (shiftBy i (n - k)))).flatten) := by
  have hflat : ∀ (F : Nat → Dist) (n : Nat),
      ((List.range (n + 1)).flatMap fun k => (List.replicate (Nat.choose n k) (F k)).flatten)
        = (binomWalk F n).flatten := fun F n => by
    simp only [binomWalk, List.flatMap_def, List.flatten_flatten, List.map_map, Function.comp_def]
  rw [hflat (fun k => (arrangementsOf rest k).map (shiftBy i (n - k))) n]
  induction n with
  | zero => simp [arrangementsOf, binomWalk, shiftBy]
  | succ n ih =>
    rw [arrangementsOf_succ, prod_cons]
    -- left summand: the new atom on isotope `i` (`h1`); right summand, the product with `rest`: on another (`h2`)
    refine ((ih.map _).append ((prod_perm_left rest ih).trans (prod_flatten_perm _ rest))).trans ?_
    refine List.Perm.trans ?_ (binomWalk_succ_perm _ n).flatten.symm
    rw [List.flatten_append, List.map_flatten, binomWalk_map, binomWalk_map]
    have h1 : binomWalk (fun k => ((arrangementsOf rest k).map (shiftBy i (n - k))).map
          (fun a => (a.1 + i.1, a.2 * i.2))) n
        = binomWalk (fun k => (arrangementsOf rest k).map (shiftBy i (n + 1 - k))) n := by
      refine binomWalk_congr n fun k hk => ?_
      have e : n + 1 - k = (n - k) + 1 := Nat.succ_sub hk
      rw [List.map_map]
      refine List.map_congr_left fun a _ => ?_
      simp only [Function.comp, shiftBy, e, pow_succ, Nat.cast_add, Nat.cast_one]
      refine Prod.ext ?_ ?_ <;> simp only <;> ring
    have h2 : binomWalk (fun k => prod ((arrangementsOf rest k).map (shiftBy i (n - k))) rest) n
        = binomWalk (fun k => (arrangementsOf rest (k + 1)).map (shiftBy i (n + 1 - (k + 1)))) n := by
      refine binomWalk_congr n fun k _ => ?_
      have e : n + 1 - (k + 1) = n - k := Nat.add_sub_add_right n 1 k
      rw [prod_map_shiftBy, e, arrangementsOf_succ]
    rw [h1, h2]

theorem arrangementsOf_singleton (i : Rat × Rat) (k : Nat) :
    arrangementsOf [i] k = [((k : Rat) * i.1, i.2 ^ k)] := by
  induction k with
  | zero => simp [arrangementsOf]
  | succ k ih =>
    rw [arrangementsOf_succ, ih, prod_cons, prod_nil]
    simp [pow_succ, add_mul]

/-- For a two-isotope element the ordered arrangements are the occupancies with binomial multiplicities. -/
theorem arrangementsOf_two_perm (m₁ p₁ m₂ p₂ : Rat) (n : Nat) :
    (arrangementsOf [(m₁, p₁), (m₂, p₂)] n).Perm
      ((List.range (n + 1)).flatMap fun k =>
        List.replicate (Nat.choose n k)
          ((k : Rat) * m₂ + ((n - k : Nat) : Rat) * m₁, p₂ ^ k * p₁ ^ (n - k))) := by
  refine (arrangementsOf_cons_perm (m₁, p₁) [(m₂, p₂)] n).trans (List.Perm.of_eq ?_)
  refine List.flatMap_congr fun k _ => ?_
  rw [arrangementsOf_singleton, List.map_singleton, List.flatten_replicate_singleton]
  rfl

/-- For every threshold `t`, the arrangements with probability `≥ t` are, as a
    multiset, the occupancies `k` with `t ≤ p₂^k p₁^(n-k)`, each `Nat.choose n k` times. -/
theorem arrangementsOf_two_filter (m₁ p₁ m₂ p₂ t : Rat) (n : Nat) :
    (keep t (arrangementsOf [(m₁, p₁), (m₂, p₂)] n)).Perm
      ((List.range (n + 1)).flatMap fun k =>
        if t ≤ p₂ ^ k * p₁ ^ (n - k) then
          List.replicate (Nat.choose n k)
            ((k : Rat) * m₂ + ((n - k : Nat) : Rat) * m₁, p₂ ^ k * p₁ ^ (n - k))
        else []) := by
  have h := (arrangementsOf_two_perm m₁ p₁ m₂ p₂ n).filter (fun x => decide (t ≤ x.2))
  unfold keep
  refine h.trans (List.Perm.of_eq ?_)
  rw [List.filter_flatMap]
  refine List.flatMap_congr fun k _ => ?_
  rw [List.filter_replicate]
  simp only [decide_eq_true_eq]

theorem flatMap_ite_nil {α β : Type} (p : α → Prop) [DecidablePred p] (f : α → List β) (l : List α) :
    (l.flatMap fun a => if p a then f a else []) = (l.filter fun a => decide (p a)).flatMap f := by
  induction l with
  | nil => rfl
  | cons a l ih =>
    rw [List.flatMap_cons, ih, List.filter_cons]
    by_cases h : p a <;> simp [h]

theorem arrangementsOf_two_filter' (m₁ p₁ m₂ p₂ t : Rat) (n : Nat) :
    (keep t (arrangementsOf [(m₁, p₁), (m₂, p₂)] n)).Perm
      (((List.range (n + 1)).filter fun k => decide (t ≤ p₂ ^ k * p₁ ^ (n - k))).flatMap fun k =>
        List.replicate (Nat.choose n k)
          ((k : Rat) * m₂ + ((n - k : Nat) : Rat) * m₁, p₂ ^ k * p₁ ^ (n - k))) :=
  (arrangementsOf_two_filter m₁ p₁ m₂ p₂ t n).trans (.of_eq (flatMap_ite_nil _ _ _))

theorem mass_binomWalk (F : Nat → Rat × Rat) (n : Nat) :
    mass (binomWalk F n)
      = ((List.range (n + 1)).map fun k => (Nat.choose n k : Rat) * (F k).2).sum := by
  unfold binomWalk
  generalize List.range (n + 1) = l
  induction l with
  | nil => simp [mass]
  | cons a l ih =>
    rw [List.flatMap_cons, mass_append, ih, List.map_cons, List.sum_cons]
    rw [mass, List.map_replicate, List.sum_replicate, nsmul_eq_mul]

/-- The binomial identity implied by `mass_arrangementsOf` and `arrangementsOf_two_perm`. -/
theorem binomial_identity (p₁ p₂ : Rat) (n : Nat) :
    ((List.range (n + 1)).map fun k => (Nat.choose n k : Rat) * (p₂ ^ k * p₁ ^ (n - k))).sum
      = (p₁ + p₂) ^ n := by
  have h := mass_perm (arrangementsOf_two_perm 0 p₁ 0 p₂ n)
  rw [mass_arrangementsOf] at h
  change _ = mass (binomWalk (fun k => ((k : Rat) * 0 + ((n - k : Nat) : Rat) * 0, p₂ ^ k * p₁ ^ (n - k))) n) at h
  rw [mass_binomWalk] at h
  rw [← h]
  simp [mass]

example :
    (arrangementsOf [((1 : Rat), (1/4 : Rat)), (2, 3/4)] 3).Perm
      ((List.range 4).flatMap fun k =>
        List.replicate (Nat.choose 3 k)
          ((k : Rat) * 2 + ((3 - k : Nat) : Rat) * 1, (3/4 : Rat) ^ k * (1/4) ^ (3 - k))) := by
  decide +kernel

end Chem
