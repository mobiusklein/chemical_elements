import ChemProofs.Props.C13Float
/-
Two more floating-point error bounds in the standard model (`Model/Float.lean`):

* `poisson_approximation`'s last step `intensities[i] / total` (one division per entry by the running
  f64 sum of the terms; the terms may underflow to exactly `0`, so the entries are only `≥ 0`);
* the SIGNED left-to-right summation bound (mass of a composition: `Σ count·mass` with counts of
  either sign).
-/
namespace Chem

/-- `poisson_approximation`'s last step: `intensities[i] / total` with `total` the running f64 sum of the terms -/
def flDivNormalize (F : FlModel) (l : List Rat) : List Rat :=
  let t := flSum F l
  l.map (fun x => F.rnd (x / t))

theorem flDivNormalize_sum {F : FlModel} (hF : F.OK) {l : List ℚ} (hne : l ≠ [])
    (hl : ∀ x ∈ l, 0 ≤ x) (hpos : ∃ x ∈ l, 0 < x) (hu : F.u < 1) :
    (1 - F.u) / (1 + F.u) ^ l.length ≤ (flDivNormalize F l).sum ∧
    (flDivNormalize F l).sum ≤ (1 + F.u) / (1 - F.u) ^ l.length := by
  have _ := hne
  exact sum_map_rnd_div_of_within hF hu.le hl (flSum_pos_of_nonneg hF hl hpos hu).1
    (flSum_bounds hF hl hu.le) (one_sub_pow_pos hu _)

theorem flDivNormalize_nonneg {F : FlModel} (hF : F.OK) {l : List ℚ} (hne : l ≠ [])
    (hl : ∀ x ∈ l, 0 ≤ x) (hpos : ∃ x ∈ l, 0 < x) (hu : F.u < 1) :
    ∀ y ∈ flDivNormalize F l, 0 ≤ y := by
  have _ := hne
  intro y hy
  obtain ⟨x, hx, rfl⟩ := List.mem_map.mp hy
  exact rnd_nonneg hF hu.le (div_nonneg (hl x hx) (flSum_pos_of_nonneg hF hl hpos hu).2.le)

theorem flDivNormalize_sum_f64 {F : FlModel} (hF : F.OK) (hu : F.u = 1 / 2 ^ 53) {l : List ℚ}
    (hne : l ≠ []) (hl : ∀ x ∈ l, 0 ≤ x) (hpos : ∃ x ∈ l, 0 < x) (hn : l.length ≤ 300) :
    ratAbs ((flDivNormalize F l).sum - 1) ≤ 1 / 10 ^ 13 := by
  have hu1 := f64_u_lt_one hu
  have h := flDivNormalize_sum hF hne hl hpos hu1
  rw [ratAbs_eq_abs]
  -- 301 roundings: at most 300 in the total, the division
  refine abs_sub_one_le_of_pow_bounds hF.1 hu1 (p := 1) (k := 301) (Nat.add_le_add_left hn 1) ?_ ?_
    (by rw [pow_one]; exact h.1) (by rw [pow_one]; exact h.2)
  all_goals
    rw [hu]
    norm_num

/-- the signed summation bound; `_hu` is not needed (`flSum_abs_le` is the same bound without it, in `|·|`) -/
theorem flSum_abs_bound {F : FlModel} (hF : F.OK) (_hu : F.u ≤ 1) (l : List ℚ) :
    ratAbs (flSum F l - l.sum) ≤ ((1 + F.u) ^ l.length - 1) * (l.map ratAbs).sum := by
  rw [ratAbs_eq_abs, map_ratAbs_eq]
  exact flSum_abs_le hF l

theorem flSum_abs_bound_f64 {F : FlModel} (hF : F.OK) (hu : F.u = 1 / 2 ^ 53) {l : List ℚ}
    (hn : l.length ≤ 64) :
    ratAbs (flSum F l - l.sum) ≤ (1 / 10 ^ 14) * (l.map ratAbs).sum := by
  have hB : 0 ≤ (l.map ratAbs).sum := by
    rw [map_ratAbs_eq]
    exact sum_map_abs_nonneg _ l
  refine (flSum_abs_bound hF (f64_u_lt_one hu).le l).trans (mul_le_mul_of_nonneg_right ?_ hB)
  refine (one_add_pow_sub_one_le hF.1 hn ?_).trans ?_
  all_goals
    rw [hu]
    norm_num

example : (flDivNormalize exactModel [1, 2, 1]).sum = 1 := by decide +kernel

example : flDivNormalize exactModel [1, 2, 1] = [1 / 4, 1 / 2, 1 / 4] := by decide +kernel

/-- an underflowed (exactly zero) term is allowed -/
example : flDivNormalize exactModel [0, 3, 1] = [0, 3 / 4, 1 / 4] := by decide +kernel

example : flSum exactModel [1, -1, 1 / 2] = 1 / 2 := by decide +kernel

/-- the hypotheses of `flDivNormalize_sum` hold for a list with a zero entry -/
example : (∀ x ∈ ([0, 3, 1] : List ℚ), 0 ≤ x) ∧ ∃ x ∈ ([0, 3, 1] : List ℚ), 0 < x := by decide +kernel

/-- the signed bound is attained up to the constant: with every rounding off by the full `u = 1/8`
the sum of `[1, -1, 1/2]` is off by `≤ ((9/8)^3 − 1)·(5/2)` -/
example : ratAbs (flSum ⟨fun x => x * (1 + 1 / 8), 1 / 8⟩ [1, -1, 1 / 2] - 1 / 2)
    ≤ ((1 + 1 / 8) ^ 3 - 1) * (5 / 2) := by decide +kernel

end Chem

#print axioms Chem.flDivNormalize_sum
#print axioms Chem.flDivNormalize_sum_f64
#print axioms Chem.flDivNormalize_nonneg
#print axioms Chem.flSum_abs_bound
#print axioms Chem.flSum_abs_bound_f64
