import ChemProofs.Lemmas.BrainProb
/-
C03 — the two BRAIN recurrences on their own, as statements about the lists they compute.  N1: `updatePowerSum` and
`updateEsp` are mutually inverse (below the truncation order).  N2: power sums add under products, also for the
truncated product `Spec.polyMul`.  `updatePowerSum` only ever extends its list.  Nothing rests on these; the two
vectors (Lemmas/BrainProb.lean, Lemmas/BrainMass.lean) use the series-level statements behind them directly.
-/
namespace Chem
open PowerSeries C03Series

theorem updatePowerSum_prefix (esp : DVec) : ∀ (fuel : Nat) (ps : DVec),
    ∃ t, updatePowerSum esp fuel ps = ps ++ t := by
  intro fuel ps
  fun_induction updatePowerSum esp fuel ps with
  | case1 ps | case3 _ ps => exact ⟨[], (List.append_nil ps).symm⟩
  | case2 fuel ps _ ih => exact ih.elim fun t ht => ⟨_ :: t, ht.trans (List.append_assoc ..)⟩

/-- (N1) `updateEsp` recovers, entry by entry, the list `esp` (leading entry 1) from the power sums
    that `updatePowerSum` computed from it, provided the truncation order is not reached
    (a negative order never truncates). -/
theorem updateEsp_updatePowerSum (esp : DVec) (order : Int) (f1 f2 : Nat)
    (h0 : esp.getD 0 0 = 1) (hord : order < 0 ∨ (esp.length : Int) ≤ order + 1)
    (hf1 : esp.length ≤ f1) (hf2 : esp.length ≤ f2) :
    updateEsp (updatePowerSum esp f1 []) order f2 [] = esp := by
  rw [updatePowerSum_nil esp hf1]
  have hpl := psN_length esp esp.length
  have hpi := psN_inv esp esp.length
  generalize psN esp esp.length = ps at *
  have hel := updateEsp_length ps order f2 [] (Nat.zero_le _) (hpl.trans_le hf2)
  have hei := updateEsp_inv ps order f2 [] (EspInv_nil ps order)
  generalize updateEsp ps order f2 [] = esp' at *
  have hF : constantCoeff (fE esp) = 1 := by rw [constantCoeff_fE, h0]
  have hQ := isPS_psOf (ne_zero_of_eq_one hF)
  refine list_eq_of_getD (hel.trans hpl) fun i hi => ?_
  have := hei.coeff_eq (by rwa [hel, hpl]) hQ hF (fun k hk => hpi.coeff_eq h0 hQ (hk.trans_eq hel)) hi
  rw [coeff_fE] at this
  exact mul_left_cancel₀ (pow_ne_zero _ (by norm_num)) this

/-- (N1, converse) `updatePowerSum` recovers the power-sum list `ps` (leading entry 0) from the
    elementary symmetric polynomials that `updateEsp` computed from it. -/
theorem updatePowerSum_updateEsp (ps : DVec) (order : Int) (f1 f2 : Nat)
    (h0 : ps.getD 0 0 = 0) (hord : order < 0 ∨ (ps.length : Int) ≤ order + 1)
    (hf1 : ps.length ≤ f1) (hf2 : ps.length ≤ f2) :
    updatePowerSum (updateEsp ps order f2 []) f1 [] = ps := by
  have hel := updateEsp_length ps order f2 [] (Nat.zero_le _) hf2
  have hei := updateEsp_inv ps order f2 [] (EspInv_nil ps order)
  generalize updateEsp ps order f2 [] = esp at *
  rw [updatePowerSum_nil esp (hel.trans_le hf1)]
  have hpl := psN_length esp esp.length
  have hpi := psN_inv esp esp.length
  generalize psN esp esp.length = ps' at *
  refine list_eq_of_getD (hpl.trans hel) fun i hi => ?_
  have hi' := hi.trans_eq hpl
  have he0 := hei.head (Nat.zero_lt_of_lt hi')
  have hF : constantCoeff (fE esp) ≠ 0 := ne_zero_of_eq_one ((constantCoeff_fE esp).trans he0)
  have := dvd_sub_iff_coeff.1 (IsPS.ps_unique hF (hei.dvd (by rwa [hel]) h0) (isPS_psOf hF)) i hi'
  rw [coeff_toPS] at this
  rw [this]
  exact hpi.coeff_eq he0 (isPS_psOf hF) hi

/-- (N2, list form) if the alternating series of `ab` is the product of those of `a` and `b`
    (`fE l = Σ (−1)^i l_i x^i`), Newton-consistent power-sum lists add up entry by entry -/
theorem powerSum_add_of_mul {a b ab pa pb pab : DVec} (ha0 : a.getD 0 0 = 1) (hb0 : b.getD 0 0 = 1)
    (hab : fE ab = fE a * fE b) (hpa : PsInv a pa) (hpb : PsInv b pb) (hpab : PsInv ab pab)
    {k : ℕ} (hka : k < pa.length) (hkb : k < pb.length) (hkab : k < pab.length) :
    pab.getD k 0 = pa.getD k 0 + pb.getD k 0 := by
  have hFa : constantCoeff (fE a) = 1 := by rw [constantCoeff_fE, ha0]
  have hFb : constantCoeff (fE b) = 1 := by rw [constantCoeff_fE, hb0]
  have hab0 : ab.getD 0 0 = 1 := by rw [← constantCoeff_fE, hab, RingHom.map_mul, hFa, hFb, one_mul]
  have hQa := isPS_psOf (ne_zero_of_eq_one hFa)
  have hQb := isPS_psOf (ne_zero_of_eq_one hFb)
  have hm := hQa.mul hQb
  rw [← hab] at hm
  rw [hpab.coeff_eq hab0 hm hkab, LinearMap.map_add, ← hpa.coeff_eq ha0 hQa hka,
    ← hpb.coeff_eq hb0 hQb hkb]

/-- (N2, list form) power sums of an `n`-th power are `n` times the power sums -/
theorem powerSum_smul_of_pow {a an pa pan : DVec} (n : ℕ) (ha0 : a.getD 0 0 = 1)
    (han : fE an = fE a ^ n) (hpa : PsInv a pa) (hpan : PsInv an pan)
    {k : ℕ} (hka : k < pa.length) (hkan : k < pan.length) :
    pan.getD k 0 = (n : ℚ) * pa.getD k 0 := by
  have hFa : constantCoeff (fE a) = 1 := by rw [constantCoeff_fE, ha0]
  have han0 : an.getD 0 0 = 1 := by rw [← constantCoeff_fE, han, RingHom.map_pow, hFa, one_pow]
  have hQa := isPS_psOf (ne_zero_of_eq_one hFa)
  have hm := hQa.pow n
  rw [← han, ← map_natCast (C : ℚ →+* ℚ⟦X⟧)] at hm
  rw [hpan.coeff_eq han0 hm hkan, coeff_C_mul, ← hpa.coeff_eq ha0 hQa hka]

theorem ps_coeff_of_vietes {A ea pa : List Rat} (hA : A.getD 0 0 ≠ 0)
    (hea : vietes A.reverse = .ok ea) (hpa : PsInv ea pa) {k : ℕ} (hk : k < pa.length) :
    pa.getD k 0 = coeff k (psOf (toPS A)) := by
  obtain ⟨esp', h', _, hget⟩ := vietes_reverse A (fun h => hA (by rw [h]; rfl))
  rw [hea] at h'
  cases h'
  exact ps_coeff_of_esp hget hpa hA hk

/-- (N2, concrete form) the power sums that BRAIN computes (`vietes` then `updatePowerSum`) for
    the truncated product `Spec.polyMul deg A B` of two coefficient lists with non-zero constant
    terms are, up to index `deg`, the sums of the power sums computed for `A` and for `B`. -/
theorem powerSum_polyMul {A B ea eb eab pa pb pab : List Rat} {deg : ℕ}
    (hA : A.getD 0 0 ≠ 0) (hB : B.getD 0 0 ≠ 0)
    (hea : vietes A.reverse = .ok ea) (heb : vietes B.reverse = .ok eb)
    (heab : vietes (Spec.polyMul deg A B).reverse = .ok eab)
    (hpa : PsInv ea pa) (hpb : PsInv eb pb) (hpab : PsInv eab pab)
    {k : ℕ} (hk : k ≤ deg) (hka : k < pa.length) (hkb : k < pb.length) (hkab : k < pab.length) :
    pab.getD k 0 = pa.getD k 0 + pb.getD k 0 := by
  have hcong : (X : ℚ⟦X⟧) ^ (deg + 1) ∣ toPS (Spec.polyMul deg A B) - toPS A * toPS B :=
    dvd_sub_iff_coeff.2 fun m hm => eqUpTo_polyMul deg A B m (Nat.le_of_lt_succ hm)
  have hA' : constantCoeff (toPS A) ≠ 0 := by rwa [constantCoeff_toPS]
  have hB' : constantCoeff (toPS B) ≠ 0 := by rwa [constantCoeff_toPS]
  have hAB : constantCoeff (toPS A * toPS B) ≠ 0 := by
    rw [RingHom.map_mul]
    exact mul_ne_zero hA' hB'
  have hAB' : constantCoeff (toPS (Spec.polyMul deg A B)) ≠ 0 := by
    rwa [← coeff_zero_eq_constantCoeff_apply, eqUpTo_polyMul deg A B 0 (Nat.zero_le _),
      coeff_zero_eq_constantCoeff_apply]
  rw [ps_coeff_of_vietes (by rwa [constantCoeff_toPS] at hAB') heab hpab hkab,
    ps_coeff_of_vietes hA hea hpa hka, ps_coeff_of_vietes hB heb hpb hkb, ← LinearMap.map_add,
    ((isPS_psOf hA').mul (isPS_psOf hB')).eq_psOf hAB]
  exact dvd_sub_iff_coeff.1 (psOf_congr hAB' hAB hcong) k (Nat.lt_succ_of_le hk)

end Chem
