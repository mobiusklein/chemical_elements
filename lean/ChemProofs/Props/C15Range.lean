import ChemProofs.Props.C15
import ChemProofs.Model.PoissonRange
/-
C15, extended domain — theorems about the range-aware Poisson model `poissonR` (the model of
`poisson_approximation_impl` WITH the `is_finite` branch that pushes `0.0`).  Like `poisson` it is `ladder` of
what its loop pushes: `pushAt Ω λ m`, the term `λ^m / m!` or 0.
-/
namespace Chem

theorem poissonIntsR_length (Ω lam : Rat) (k i : Nat) (s : PoisState) : (poissonIntsR Ω lam k i s).length = k := by
  induction k generalizing i s with
  | zero => rfl
  | succ k ih => simp [poissonIntsR, ih]

def pushAt (Ω lam : Rat) (m : Nat) : Rat := pushR Ω (stateAt lam m)

theorem pushAt_eq (Ω lam : Rat) (m : Nat) :
    pushAt Ω lam m = if lam ^ m ≤ Ω ∧ (m.factorial : Rat) ≤ Ω then pterm lam m else 0 := rfl

theorem pushAt_nonneg (Ω : Rat) {lam : Rat} (hl : 0 ≤ lam) (m : Nat) : 0 ≤ pushAt Ω lam m := by
  rw [pushAt_eq]
  split
  · exact pterm_nonneg hl m
  · exact le_refl _

theorem pushAt_zero (Ω lam : Rat) (hΩ : 1 ≤ Ω) : pushAt Ω lam 0 = 1 := by
  rw [pushAt_eq, pow_zero, Nat.factorial_zero, Nat.cast_one, if_pos ⟨hΩ, hΩ⟩, pterm_zero]

theorem poissonIntsR_stateAt (Ω lam : Rat) (k m : Nat) :
    poissonIntsR Ω lam k (m + 1) (stateAt lam m) = (List.range' (m + 1) k).map (pushAt Ω lam) := by
  induction k generalizing m with
  | zero => rfl
  | succ k ih =>
    simp only [poissonIntsR, pNext_stateAt, ih, List.range'_succ, List.map_cons, pushAt]

/-- the un-normalised intensities of `poissonR`: the first term is pushed unconditionally -/
def rawR (Ω lam : Rat) : Nat → List Rat
  | 0 => []
  | n + 1 => 1 :: (List.range' 1 n).map (pushAt Ω lam)

theorem rawR_length (Ω lam : Rat) (n : Nat) : (rawR Ω lam n).length = n := by
  cases n <;> simp [rawR]

theorem rawR_eq (Ω lam : Rat) (hΩ : 1 ≤ Ω) (n : Nat) : rawR Ω lam n = (List.range n).map (pushAt Ω lam) := by
  cases n with
  | zero => rfl
  | succ n => rw [rawR, List.range_eq_range', List.range'_succ, List.map_cons, pushAt_zero Ω lam hΩ]

theorem poissonR_eq_ladder (Ω mass : Rat) (n : Nat) (z : Int) (lf ns pr : Rat) :
    poissonR Ω mass n z lf ns pr = ladder mass z ns pr (rawR Ω (mass / lf) n) := by
  cases n with
  | zero => rfl
  | succ n =>
    rw [rawR, ← poissonIntsR_stateAt, stateAt_zero]
    rfl

theorem poissonR_len (Ω mass : Rat) (n : Nat) (z : Int) (lf ns pr : Rat) :
    (poissonR Ω mass n z lf ns pr).length = n := by
  rw [poissonR_eq_ladder, ladder_length, rawR_length]

theorem poissonR_mz (Ω mass : Rat) (n : Nat) (z : Int) (lf ns pr : Rat) :
    (poissonR Ω mass n z lf ns pr).map (·.mz) =
      (List.range n).map (fun (i : Nat) => chargedMz (mass + ((i : Nat) : Rat) * ns) z pr) := by
  rw [poissonR_eq_ladder, ladder_mz, rawR_length]

theorem poissonR_mz_eq_poisson (Ω mass : Rat) (n : Nat) (z : Int) (lf ns pr : Rat) :
    (poissonR Ω mass n z lf ns pr).map (·.mz) = (poisson mass n z lf ns pr).map (·.mz) := by
  rw [poissonR_mz, poisson_mz]

/-- intensities are non-negative and sum to exactly 1 (mass ≥ 0, n ≥ 1), for ANY range bound `Ω` -/
theorem poissonR_sum (Ω mass : Rat) (n : Nat) (z : Int) (lf ns pr : Rat) (_hΩ : 1 ≤ Ω) (hm : 0 ≤ mass) (hlf : 0 < lf)
    (hn : 1 ≤ n) :
    (∀ q ∈ poissonR Ω mass n z lf ns pr, 0 ≤ q.int) ∧ total (poissonR Ω mass n z lf ns pr) = 1 := by
  obtain ⟨k, rfl⟩ := Nat.exists_eq_add_one.mpr hn
  rw [poissonR_eq_ladder]
  exact ladder_cons_one_sum (List.forall_mem_map.mpr fun m _ => pushAt_nonneg Ω (div_nonneg hm hlf.le) m)

theorem poissonR_nonneg (Ω mass : Rat) (n : Nat) (z : Int) (lf ns pr : Rat) (hΩ : 1 ≤ Ω) (hm : 0 ≤ mass) (hlf : 0 < lf)
    (hn : 1 ≤ n) : ∀ q ∈ poissonR Ω mass n z lf ns pr, 0 ≤ q.int :=
  (poissonR_sum Ω mass n z lf ns pr hΩ hm hlf hn).1

theorem one_le_f64Max : (1 : Rat) ≤ f64Max := by decide +kernel

theorem poissonR_f64_sum (mass : Rat) (n : Nat) (z : Int) (lf ns pr : Rat) (hm : 0 ≤ mass) (hlf : 0 < lf) (hn : 1 ≤ n) :
    (∀ q ∈ poissonR f64Max mass n z lf ns pr, 0 ≤ q.int) ∧ total (poissonR f64Max mass n z lf ns pr) = 1 :=
  poissonR_sum f64Max mass n z lf ns pr one_le_f64Max hm hlf hn

/-- **the two models agree where no loop variable leaves the range**
    (`∀ i < n, λ^i ≤ Ω ∧ i! ≤ Ω`, `λ = mass / lambda_factor`) -/
theorem poissonR_eq_poisson (Ω mass : Rat) (n : Nat) (z : Int) (lf ns pr : Rat)
    (h : ∀ i, i < n → (mass / lf) ^ i ≤ Ω ∧ (i.factorial : Rat) ≤ Ω) :
    poissonR Ω mass n z lf ns pr = poisson mass n z lf ns pr := by
  cases n with
  | zero => rfl
  | succ n =>
    rw [poissonR_eq_ladder, poisson_eq_ladder, rawR_eq Ω _ ((pow_zero _).ge.trans (h 0 n.succ_pos).1)]
    exact congrArg _ (List.map_congr_left fun i hi => by rw [pushAt_eq, if_pos (h i (List.mem_range.mp hi))])

theorem poissonR_eq_poisson_states (Ω mass : Rat) (n : Nat) (z : Int) (lf ns pr : Rat)
    (h : ∀ i, i < n → (stateAt (mass / lf) i).p ≤ Ω ∧ (stateAt (mass / lf) i).f ≤ Ω) :
    poissonR Ω mass n z lf ns pr = poisson mass n z lf ns pr :=
  poissonR_eq_poisson Ω mass n z lf ns pr h

/-- hence C15's ratio law holds on `poissonR` wherever the variables stay in range -/
theorem poissonR_ratio (Ω mass : Rat) (n : Nat) (z : Int) (lf ns pr : Rat) (hm : 0 ≤ mass) (hlf : 0 < lf)
    (h : ∀ i, i < n → (mass / lf) ^ i ≤ Ω ∧ (i.factorial : Rat) ≤ Ω)
    (i : Nat) (hi : 1 ≤ i) (hin : i < n)
    (p q : Peak) (hp : (poissonR Ω mass n z lf ns pr)[i]? = some p) (hq : (poissonR Ω mass n z lf ns pr)[i-1]? = some q) :
    p.int * (i : Rat) = q.int * (mass / lf) := by
  rw [poissonR_eq_poisson Ω mass n z lf ns pr h] at hp hq
  exact poisson_ratio mass n z lf ns pr hm hlf i hi hin p q hp hq

theorem stateAt_mono (lam : Rat) (hl : 1 ≤ lam) {i j : Nat} (h : i ≤ j) :
    (stateAt lam i).p ≤ (stateAt lam j).p ∧ (stateAt lam i).f ≤ (stateAt lam j).f :=
  ⟨pow_le_pow_right₀ hl h, Nat.cast_le.mpr (Nat.factorial_le h)⟩

theorem pterm_pos (lam : Rat) (hl : 1 ≤ lam) (m : Nat) : 0 < pterm lam m :=
  div_pos (pow_pos (lt_of_lt_of_le one_pos hl) m) (Nat.cast_pos.mpr (Nat.factorial_pos m))

/-- **sticky**: for `λ ≥ 1` a zero at `i` forces zeros at every `j ≥ i` -/
theorem pushAt_zero_sticky (Ω lam : Rat) (hl : 1 ≤ lam) (i j : Nat) (hij : i ≤ j) (h : pushAt Ω lam i = 0) :
    pushAt Ω lam j = 0 := by
  have hm := stateAt_mono lam hl hij
  rw [pushAt_eq] at h ⊢
  split at h
  · exact absurd h (pterm_pos lam hl i).ne'
  · rename_i hi
    exact if_neg fun ⟨h1, h2⟩ => hi ⟨le_trans hm.1 h1, le_trans hm.2 h2⟩

/-- list version: in the pushed intensities a zero is followed only by zeros -/
theorem poissonIntsR_zero_suffix (Ω lam : Rat) (hl : 1 ≤ lam) (k i j : Nat) (hij : i ≤ j)
    (hj : j < (poissonIntsR Ω lam k 1 ⟨1, 1⟩).length)
    (h : (poissonIntsR Ω lam k 1 ⟨1, 1⟩)[i]'(by omega) = 0) :
    (poissonIntsR Ω lam k 1 ⟨1, 1⟩)[j] = 0 := by
  simp only [← stateAt_zero lam, poissonIntsR_stateAt, List.getElem_map, List.getElem_range'] at h ⊢
  exact pushAt_zero_sticky Ω lam hl _ _ (Nat.add_le_add_left (Nat.mul_le_mul_left 1 hij) 1) h

theorem poissonR_closed (Ω mass : Rat) (hΩ : 1 ≤ Ω) (n : Nat) (z : Int) (lf ns pr : Rat) (i : Nat) (p : Peak)
    (hp : (poissonR Ω mass n z lf ns pr)[i]? = some p) :
    p.int = pushAt Ω (mass / lf) i / ((List.range n).map (pushAt Ω (mass / lf))).sum := by
  rw [poissonR_eq_ladder, rawR_eq Ω _ hΩ] at hp
  exact ladder_range_int hp

/-- pattern version: in `poissonR` (mass ≥ lambda_factor, i.e. `λ ≥ 1`) a zero intensity is followed only by zeros -/
theorem poissonR_zero_suffix (Ω mass : Rat) (hΩ : 1 ≤ Ω) (n : Nat) (z : Int) (lf ns pr : Rat) (hlf : 0 < lf)
    (hml : lf ≤ mass) (i j : Nat) (hij : i ≤ j) (p q : Peak)
    (hp : (poissonR Ω mass n z lf ns pr)[i]? = some p) (hq : (poissonR Ω mass n z lf ns pr)[j]? = some q)
    (h0 : p.int = 0) : q.int = 0 := by
  rw [poissonR_closed Ω mass hΩ _ z lf ns pr i p hp] at h0
  rw [poissonR_closed Ω mass hΩ _ z lf ns pr j q hq]
  -- a vanishing total would make every quotient `0` as well
  rcases div_eq_zero_iff.1 h0 with hi0 | ht
  · rw [pushAt_zero_sticky Ω _ ((one_le_div₀ hlf).mpr hml) i j hij hi0, zero_div]
  · rw [ht, div_zero]

/-- in range: the `f64` model returns the plain pattern -/
example : (poissonR f64Max 1800 3 1 1800 1 1).map (·.int) = [2/5, 2/5, 1/5] := by decide +kernel
example : poissonR f64Max 1800 3 1 1800 1 1 = poisson 1800 3 1 1800 1 1 := by decide +kernel
/-- out of range (`Ω = 2`, `λ = 3`): `λ^1 = 3 > 2`, zeros are pushed from iteration 1 on, the total is still 1 -/
example : (poissonR 2 5400 3 1 1800 1 1).map (·.int) = [1, 0, 0] := by decide +kernel
/-- `Ω = 4`, `λ = 3`: the term `3` is pushed, `9 > 4` is not -/
example : (poissonR 4 5400 3 1 1800 1 1).map (·.int) = [1/4, 3/4, 0] := by decide +kernel
example : (poisson 5400 3 1 1800 1 1).map (·.int) = [2/17, 6/17, 9/17] := by decide +kernel
/-- the factorial leaves the range: `Ω = 5`, `λ = 1`, `3! = 6 > 5` -/
example : (poissonR 5 1800 4 1 1800 1 1).map (·.int) = [2/5, 2/5, 1/5, 0] := by decide +kernel

end Chem
