import ChemProofs.Lemmas.Res
import ChemProofs.Lemmas.BrainCanon
/-
C08 — purity of the caching pattern generator: a call on a reusable generator returns exactly what
the stateless function returns, whatever was requested from the generator before.

What a cache entry holds is determined by its element and one number: `esp` is the element's coefficient
vector padded with zeros, `ps` the canonical Newton power sums `psN` of the same length (`PolyCanon`,
`CanonExt` in Lemmas/BrainCanon.lean; `Canon`).  `Phi.update` only moves along this family (`CanonExt.update`,
`update_canon`), and the peaks read the constants only
through the power sums `1..order` (`variantsWith_congr`).  The fold of `populateFromCache` is the fold of `populate`
seen through the cache the call started from (`fold_view`: the same failure, or the constants of `populate` with the
cached entry in place of the fresh one wherever the cache has the key, `Cache.view`); what `populate` collects are
the constants of the elements of the composition (`FromComp`, Lemmas/BrainCanon.lean), and a cached entry and a fresh
one of the same element answer alike (`pair_ans`).  An element whose
coefficient vector is shorter than its `maxShift` (no `ElemOK`) needs care: extending its entry makes the
call fail, and a failed call stores nothing, so such an entry stays the initial one (`CanonG`).
The only hypothesis is `SymInj`: one table in which the symbol determines the element.
-/
namespace Chem

theorem Res.bind_ok {α β} (a : α) (f : α → Res β) : (Res.ok a).bind f = f a := rfl

/-- the first power sums do not depend on how far the vectors were extended -/
theorem updatePowerSum_prefix (esp : DVec) (m : Nat) :
    (updatePowerSum (esp ++ List.replicate m 0) (esp.length + m) []).take esp.length
      = updatePowerSum esp esp.length [] := by
  rw [updatePowerSum_nil esp (Nat.le_refl _),
    updatePowerSum_canon esp (esp ++ List.replicate m 0) (nextPowerSum_pad esp m) _ [] rfl (Nat.zero_le _)
      (by simp)]
  apply psN_take
  simp

/-- … nor on the number of steps in which they were extended -/
theorem updatePowerSum_steps (esp : DVec) (m : Nat) :
    updatePowerSum (esp ++ List.replicate m 0) m (updatePowerSum esp esp.length [])
      = updatePowerSum (esp ++ List.replicate m 0) (esp.length + m) [] := by
  rw [updatePowerSum_nil esp (Nat.le_refl _),
    updatePowerSum_canon esp (esp ++ List.replicate m 0) (nextPowerSum_pad esp m) (esp.length + m) [] rfl
      (Nat.zero_le _) (by simp)]
  apply updatePowerSum_canon esp _ (nextPowerSum_pad esp m)
  · rw [psN_length]
  · rw [psN_length]
    simp
  · rw [psN_length]
    simp

/-- `φ` is what `Phi.fromElement e` produced, extended by some sequence of updates -/
def Canon (K : BrainConsts) (e : Elem) (φ : Phi) : Prop :=
  ∃ φ0, Phi.fromElement e K.one = .ok φ0 ∧ PolyCanon φ0.elem φ.elem ∧ PolyCanon φ0.mass φ.mass ∧
    φ.order ≤ (φ.elem.esp.length : Int) ∧ φ.mass.esp.length = φ.elem.esp.length

/-- `Phi.update` maps canonical constants to canonical constants, and afterwards every index
    `≤ order` is in range -/
theorem update_canon {K : BrainConsts} {e : Elem} {φ : Phi} (h : Canon K e φ) (o : Int) :
    Canon K e (φ.update o) ∧ o < ((φ.update o).elem.esp.length : Int) := by
  obtain ⟨φ0, h0, he, hm, hord, hlen⟩ := h
  by_cases h1 : o < φ.order
  · rw [update_of_lt h1]
    exact ⟨⟨φ0, h0, he, hm, hord, hlen⟩, Int.lt_of_lt_of_le h1 hord⟩
  · obtain ⟨⟨he', hm', hlen'⟩, hl, ho⟩ := CanonExt.update ⟨he, hm, hlen⟩ h1
    refine ⟨⟨φ0, h0, he', hm', Int.le_of_eq ho, hlen'⟩, ?_⟩
    calc o < o + 1 := Int.lt_succ o
      _ ≤ φ.elem.esp.length + (o + 1 - φ.order) := Int.le_add_of_sub_left_le (Int.sub_le_sub_left hord _)
      _ = _ := hl.symm

theorem ResRel.refl_eq {α} (r : Res α) : ResRel (fun a b => a = b) r r := by
  cases r <;> simp only [ResRel]

theorem ResRel.eq {α} {r1 r2 : Res α} (h : ResRel (fun a b => a = b) r1 r2) : r1 = r2 := by
  cases r1 <;> cases r2 <;> simp only [ResRel] at h
  · rw [h]
  · rfl
  · rfl

/-- the element's own `max_neutron_shift` (`φ0.order`) does not exceed the length of the coefficient
    vector it produces (for an element without it see `CanonG`) -/
def ElemOK (K : BrainConsts) (e : Elem) : Prop :=
  ∀ φ0, Phi.fromElement e K.one = .ok φ0 → φ0.order ≤ (φ0.elem.esp.length : Int)

instance (K : BrainConsts) (e : Elem) : Decidable (ElemOK K e) :=
  match h : Phi.fromElement e K.one with
  | .ok φ0 =>
    if h2 : φ0.order ≤ (φ0.elem.esp.length : Int) then
      isTrue (by intro φ hφ; rw [h] at hφ; cases hφ; exact h2)
    else isFalse (fun hh => h2 (hh _ h))
  | .err => isTrue (by intro φ hφ; rw [h] at hφ; cases hφ)
  | .panic => isTrue (by intro φ hφ; rw [h] at hφ; cases hφ)

theorem Canon.ext {K : BrainConsts} {e : Elem} {φ φ0 : Phi} (h : Canon K e φ)
    (h0 : Phi.fromElement e K.one = .ok φ0) : CanonExt φ0 φ := by
  obtain ⟨φ0', h0', he, hm, _, hlen⟩ := h
  rw [h0] at h0'
  cases h0'
  exact ⟨he, hm, hlen⟩

/-- the part of the constants that is ever read -/
def Same (φ ψ : Phi) : Prop := φ.order = ψ.order ∧ φ.elem = ψ.elem ∧ φ.mass = ψ.mass

/-- the general invariant of one entry.  For an element with `ElemOK` the entry is canonical; for
    an element without it (the coefficient vector is shorter than `max_neutron_shift`) the entry is
    still the initial one — every call that would extend it fails (index out of range), see
    `bad_update_fail`, and a failed call stores nothing. -/
def CanonG (K : BrainConsts) (e : Elem) (φ : Phi) : Prop :=
  (ElemOK K e ∧ Canon K e φ) ∨ (¬ ElemOK K e ∧ ∃ φ0, Phi.fromElement e K.one = .ok φ0 ∧ Same φ φ0)

theorem fromElement_canonG {K : BrainConsts} {e : Elem} {φ0 : Phi} (h : Phi.fromElement e K.one = .ok φ0) :
    CanonG K e φ0 := by
  by_cases hok : ElemOK K e
  · obtain ⟨he, hm, hlen⟩ := fromElement_shape h
    exact .inl ⟨hok, φ0, h, he, hm, hok φ0 h, hlen⟩
  · exact .inr ⟨hok, φ0, h, rfl, rfl, rfl⟩

theorem CanonG.from {K : BrainConsts} {e : Elem} {φ : Phi} (h : CanonG K e φ) :
    ∃ φ0, Phi.fromElement e K.one = .ok φ0 := by
  rcases h with ⟨_, φ0, h0, _⟩ | ⟨_, φ0, h0, _⟩ <;> exact ⟨φ0, h0⟩

theorem update_same {φ ψ : Phi} (h : Same φ ψ) (o : Int) : Same (φ.update o) (ψ.update o) := by
  obtain ⟨h1, h2, h3⟩ := h
  unfold Phi.update
  rw [h1, h2, h3]
  split
  · exact ⟨h1, h2, h3⟩
  · exact ⟨rfl, rfl, rfl⟩

/-- the answer of one entry to `nth_element_power_sum(_mass)` -/
def ans (φ : Phi) (k : Nat) (b : Bool) : Res Rat :=
  let v := if b then φ.mass.ps else φ.elem.ps
  if k < v.length then .ok (v.getD k 0) else .panic

theorem nthPs_update (c : IsoConstants) (s : Sym) (k : Nat) (b : Bool) :
    nthPs c.update s k b = match c.consts.find? (fun x => x.1 == s) with
      | none => .panic
      | some p => ans (p.2.update c.order) k b := by
  have hf : c.update.consts.find? (fun x => x.1 == s) =
      (c.consts.find? fun x => x.1 == s).map fun x => (x.1, x.2.update c.order) := List.find?_map
  unfold nthPs IsoConstants.get ans
  rw [hf]
  cases c.consts.find? (fun x => x.1 == s) <;> rfl

theorem ans_same {φ ψ : Phi} (h : Same φ ψ) (k : Nat) (b : Bool) : ans φ k b = ans ψ k b := by
  unfold ans
  rw [h.2.1, h.2.2]

theorem CanonExt.ans_eq {φ0 φ : Phi} (h : CanonExt φ0 φ) (k : Nat) (b : Bool) :
    ans φ k b =
      if k < φ.elem.esp.length then .ok (psAt (if b then φ0.mass.esp else φ0.elem.esp) k) else .panic := by
  obtain ⟨he, hm, hlen⟩ := h
  unfold ans
  cases b with
  | false =>
    simp only [Bool.false_eq_true, if_false]
    rw [he.ps_length]
    split
    · rw [he.2, psN_getD _ ‹_›]
    · rfl
  | true =>
    simp only [if_true]
    rw [hm.ps_length, hlen]
    split
    · rw [hm.2, hlen, psN_getD _ ‹_›]
    · rfl

theorem bad_update_fail {K : BrainConsts} {e : Elem} {φ φ0 : Phi} (hnok : ¬ ElemOK K e)
    (h0 : Phi.fromElement e K.one = .ok φ0) (hs : Same φ φ0) {o : Int} (ho : ¬ o < φ.order) :
    1 ≤ o.toNat ∧ ans (φ.update o) o.toNat false = .panic := by
  have hbad : ¬ φ0.order ≤ (φ0.elem.esp.length : Int) := fun hle =>
    hnok fun φ0' h' => by rw [h0] at h'; cases h'; exact hle
  have hext : CanonExt φ0 φ := by
    unfold CanonExt
    rw [hs.2.1, hs.2.2]
    exact fromElement_shape h0
  obtain ⟨hext', hl, -⟩ := hext.update ho
  rw [← hs.1, ← hs.2.1] at hbad
  have hshort : ¬ o.toNat < (φ.update o).elem.esp.length := by omega
  exact ⟨by omega, by rw [hext'.ans_eq, if_neg hshort]⟩

/-- the two sets of constants answer every query the generator makes in the same way -/
def NthAgree (c1 c2 : IsoConstants) (c : BComp) (n : Nat) : Prop :=
  ∀ x ∈ c, ∀ k, 1 ≤ k → k ≤ n → ∀ b, nthPs c1 x.1.sym k b = nthPs c2 x.1.sym k b

theorem phiFor_congr {c1 c2 : IsoConstants} {c : BComp} {n k : Nat} (h : NthAgree c1 c2 c n)
    (h1 : 1 ≤ k) (h2 : k ≤ n) : phiFor c1 c k = phiFor c2 c k := by
  unfold phiFor
  congr 1
  apply List.map_congr_left
  intro x hx
  rw [h x hx k h1 h2]

theorem phiMassFor_congr {c1 c2 : IsoConstants} {c : BComp} {n k : Nat} (h : NthAgree c1 c2 c n)
    (h1 : 1 ≤ k) (h2 : k ≤ n) {y : Elem × Int} (hy : y ∈ c) :
    phiMassFor c1 c y.1 k = phiMassFor c2 c y.1 k := by
  unfold phiMassFor
  rw [h y hy k h1 h2]
  congr 2
  apply List.map_congr_left
  intro x hx
  dsimp only
  rw [h x hx k h1 h2]

theorem probabilityVector_congr {c1 c2 : IsoConstants} {c : BComp} {n : Nat} (h : NthAgree c1 c2 c n)
    (V : Int) (base : Rat) : probabilityVector c1 c n V base = probabilityVector c2 c n V base := by
  unfold probabilityVector
  rw [mapRes_congr (g := fun i => phiFor c2 c (i + 1))]
  intro i hi
  exact phiFor_congr h (Nat.le_add_left 1 i) (List.mem_range.mp hi)

theorem centerMassVector_congr {c1 c2 : IsoConstants} {c : BComp} {n : Nat} (h : NthAgree c1 c2 c n)
    (V : Int) (base one : Rat) (prob : DVec) :
    centerMassVector c1 c n V base one prob = centerMassVector c2 c n V base one prob := by
  unfold centerMassVector
  rw [mapRes_congr (l := c) (g := fun (x : Elem × Int) =>
      (mapRes (fun i => phiMassFor c2 c x.1 (i + 1)) (List.range n)).bind fun phis =>
        .ok (x.1.sym, espOfPs (0 :: phis) V))]
  intro x hx
  rw [mapRes_congr (g := fun i => phiMassFor c2 c x.1 (i + 1))]
  intro i hi
  exact phiMassFor_congr h (Nat.le_add_left 1 i) (List.mem_range.mp hi) hx

/-- constants that agree on the power sums `1..order` of the composition's
    symbols (same value or same failure) give the same peaks -/
theorem variantsWith_congr (K : BrainConsts) {c1 c2 : IsoConstants} {c : BComp} {n : Nat}
    (h : NthAgree c1 c2 c n) (z : Int) (carrier : Rat) :
    variantsWith K c1 c n z carrier = variantsWith K c2 c n z carrier := by
  simp only [variantsWith, rawVariants, probabilityVector_congr h, centerMassVector_congr h]

/-- one table: the symbol determines the element -/
def SymInj (T : List Elem) : Prop := ∀ x ∈ T, ∀ y ∈ T, x.sym = y.sym → x = y

/-- the composition is over the table `T`: with `SymInj T`, what a cache holds under a symbol of `c` belongs to the element
    `c` means by it -/
def CompOK (T : List Elem) (c : BComp) : Prop := ∀ x ∈ c, x.1 ∈ T

def CacheInv (K : BrainConsts) (T : List Elem) (cache : Cache) : Prop :=
  ∀ p ∈ cache, ∃ e ∈ T, e.sym = p.1 ∧ CanonG K e p.2

theorem checkout_of_find_some {ch : Cache} {s : Sym} {q : Sym × Phi}
    (h : ch.find? (fun y => y.1 == s) = some q) :
    Cache.checkout ch s = (some q.2, ch.filter (fun y => !(y.1 == s))) := by
  unfold Cache.checkout
  rw [h]

theorem checkout_of_find_none {ch : Cache} {s : Sym} (h : ch.find? (fun y => y.1 == s) = none) :
    Cache.checkout ch s = (none, ch) := by
  unfold Cache.checkout
  rw [h]

/-- one entry of the composition in `populateFromCache`: the entry is checked out of the cache if it is there
    (`populateStep`, Lemmas/BrainCanon.lean, is the same for `populate`) -/
def populateFromCacheStep (K : BrainConsts) (acc : Res (IsoConstants × Cache)) (x : Elem × Int) :
    Res (IsoConstants × Cache) :=
  acc.bind fun (cs, cache) =>
      match Cache.checkout cache x.1.sym with
      | (some phi, cache') => .ok ({ cs with consts := cs.consts ++ [(x.1.sym, phi)] }, cache')
      | (none, cache') => (cs.add x.1 K.one).bind fun cs' => .ok (cs', cache')

theorem brainVariants_eq (K : BrainConsts) (c : BComp) (req : PeakReq) (z : Int) (carrier : Rat) :
    brainVariants K c req z carrier =
      (c.foldl (populateStep K) (Res.ok ⟨[], resolveOrder K c req⟩)).bind fun a =>
        variantsWith K a.update c (resolveOrder K c req).toNat z carrier := by
  unfold brainVariants populate
  rw [Res.bind_assoc]
  rfl

theorem generatorCall_eq (K : BrainConsts) (cache : Cache) (c : BComp) (req : PeakReq) (z : Int) (carrier : Rat) :
    generatorCall K cache c req z carrier =
      (c.foldl (populateFromCacheStep K) (Res.ok (⟨[], resolveOrder K c req⟩, cache))).bind fun bc =>
        (variantsWith K bc.1.update c (resolveOrder K c req).toNat z carrier).bind fun peaks =>
          .ok (peaks, bc.1.update.consts.foldl (fun ch x => Cache.receive ch x.1 x.2) bc.2) := by
  unfold generatorCall populateFromCache
  rw [Res.bind_assoc]
  rfl

/-- the entry the generator holds under the key of `p`: the cached one if the cache has the key -/
def Cache.sub (ch : Cache) (p : Sym × Phi) : Sym × Phi :=
  match ch.find? (fun y => y.1 == p.1) with
  | some q => (p.1, q.2)
  | none => p

theorem Cache.sub_fst (ch : Cache) (p : Sym × Phi) : (ch.sub p).1 = p.1 := by
  unfold Cache.sub
  split <;> rfl

/-- the state of the generator's fold as a function of the state `a` of the stateless one and of the cache `ch` the call
    started from: cached constants in place of fresh ones, and the cache without the keys met so far -/
def Cache.view (ch : Cache) (a : IsoConstants) : IsoConstants × Cache :=
  ({ a with consts := a.consts.map ch.sub },
   ch.filter fun y => (a.consts.find? fun p => p.1 == y.1).isNone)

theorem Cache.find_view (ch : Cache) (a : IsoConstants) (s : Sym) :
    (ch.view a).1.consts.find? (fun y => y.1 == s) = (a.consts.find? (fun y => y.1 == s)).map ch.sub := by
  unfold Cache.view
  rw [List.find?_map]
  congr 2
  funext y
  simp only [Function.comp, Cache.sub_fst]

theorem find?_filter_of_imp {α} {p q : α → Bool} (h : ∀ x, q x = true → p x = true) (l : List α) :
    (l.filter p).find? q = l.find? q := by
  rw [List.find?_filter]
  congr 1
  funext x
  cases hq : q x
  · simp
  · simp [h x hq]

theorem Cache.view_snoc (ch : Cache) (a : IsoConstants) (p : Sym × Phi) :
    ch.view { a with consts := a.consts ++ [p] } =
      ({ (ch.view a).1 with consts := (ch.view a).1.consts ++ [ch.sub p] },
       (ch.view a).2.filter fun y => !(y.1 == p.1)) := by
  unfold Cache.view
  dsimp only
  rw [List.map_append, List.map_cons, List.map_nil, List.filter_filter]
  congr 2
  funext y
  rw [List.find?_append, Option.isNone_or, List.find?_singleton, Bool.and_comm, BEq.comm]
  cases y.1 == p.1 <;> rfl

/-- no invariant of the state is needed, only that the cached entry under the symbol of `x` belongs to `x.1`, whose
    constants exist -/
theorem step_view {K : BrainConsts} {T : List Elem} (hT : SymInj T) {ch : Cache} (hinv : CacheInv K T ch)
    {x : Elem × Int} (hx : x.1 ∈ T) (r : Res IsoConstants) :
    populateFromCacheStep K (r.bind fun a => .ok (ch.view a)) x =
      (populateStep K r x).bind fun a => .ok (ch.view a) := by
  cases r with
  | err => rfl
  | panic => rfl
  | ok a =>
    unfold populateFromCacheStep populateStep
    rw [Res.bind_ok, Res.bind_ok, Res.bind_ok]
    dsimp only
    have hv := ch.find_view a x.1.sym
    cases ha : a.consts.find? (fun p => p.1 == x.1.sym) with
    | some p =>
      -- the key was met before: it has left the cache, and both sides have an entry for it
      have hc : (ch.view a).2.find? (fun y => y.1 == x.1.sym) = none := by
        rw [List.find?_eq_none]
        intro y hy hys
        have := (List.mem_filter.mp hy).2
        rw [eq_of_beq hys, ha] at this
        cases this
      rw [checkout_of_find_none hc, add_of_find_some ha, add_of_find_some (hv.trans (congrArg _ ha))]
      rfl
    | none =>
      have hc : (ch.view a).2.find? (fun y => y.1 == x.1.sym) = ch.find? (fun y => y.1 == x.1.sym) :=
        find?_filter_of_imp (fun y hy => by rw [eq_of_beq hy, ha]; rfl) ch
      rw [add_of_find_none ha, Res.bind_assoc]
      simp only [Res.bind_ok, Cache.view_snoc, Cache.sub]
      cases hq : ch.find? (fun y => y.1 == x.1.sym) with
      | some q =>
        -- the entry is taken from the cache
        obtain ⟨hqm, hqs⟩ := find?_key_some hq
        obtain ⟨e, heT, hes, hcan⟩ := hinv q hqm
        obtain rfl : e = x.1 := hT e heT x.1 hx (hes.trans hqs)
        obtain ⟨φ0, h0⟩ := hcan.from
        rw [checkout_of_find_some (hc.trans hq), h0]
        rfl
      | none =>
        rw [checkout_of_find_none (hc.trans hq), add_of_find_none (hv.trans (congrArg _ ha)),
          List.filter_eq_self.mpr fun y hy => by simpa using List.find?_eq_none.mp (hc.trans hq) y hy]
        dsimp only
        rw [Res.bind_assoc]
        rfl

theorem fold_view {K : BrainConsts} {T : List Elem} (hT : SymInj T) {ch : Cache} (hinv : CacheInv K T ch)
    {c : BComp} (hc : CompOK T c) (o : Int) :
    c.foldl (populateFromCacheStep K) (.ok (⟨[], o⟩, ch)) =
      (c.foldl (populateStep K) (.ok ⟨[], o⟩)).bind fun a => .ok (ch.view a) := by
  have : ∀ (l : List (Elem × Int)), (∀ x ∈ l, x.1 ∈ T) → ∀ r : Res IsoConstants,
      l.foldl (populateFromCacheStep K) (r.bind fun a => .ok (ch.view a)) =
        (l.foldl (populateStep K) r).bind fun a => .ok (ch.view a) := by
    intro l
    induction l with
    | nil => exact fun _ _ => rfl
    | cons x l ih =>
      intro hl r
      rw [List.foldl_cons, List.foldl_cons, step_view hT hinv (hl x List.mem_cons_self),
        ih fun y hy => hl y (List.mem_cons_of_mem _ hy)]
  rw [← this c hc]
  exact congrArg (fun s => c.foldl (populateFromCacheStep K) (.ok (⟨[], o⟩, s)))
    (List.filter_eq_self.mpr fun _ _ => rfl).symm

theorem sub_canonG {K : BrainConsts} {T : List Elem} (hT : SymInj T) {ch : Cache} (hinv : CacheInv K T ch)
    {x : Elem × Int} (hx : x.1 ∈ T) {p : Sym × Phi} (hs : x.1.sym = p.1) (h0 : Phi.fromElement x.1 K.one = .ok p.2) :
    CanonG K x.1 p.2 ∧ CanonG K x.1 (ch.sub p).2 := by
  refine ⟨fromElement_canonG h0, ?_⟩
  unfold Cache.sub
  split
  · rename_i q hq
    obtain ⟨hqm, hqs⟩ := find?_key_some hq
    obtain ⟨e, heT, hes, hcan⟩ := hinv q hqm
    obtain rfl : e = x.1 := hT e heT x.1 hx (hes.trans (hqs.trans hs.symm))
    exact hcan
  · exact fromElement_canonG h0

theorem pair_ans {K : BrainConsts} {e : Elem} {p q : Phi} (hp : CanonG K e p) (hq : CanonG K e q)
    (o : Int) {k : Nat} (hk1 : 1 ≤ k) (hk : k ≤ o.toNat) (b : Bool) :
    ans (p.update o) k b = ans (q.update o) k b := by
  rcases hp with ⟨_, cp⟩ | ⟨hn, φ0, h0, sp⟩
  · rcases hq with ⟨_, cq⟩ | ⟨hn, _⟩
    · obtain ⟨φ0, h0, -⟩ := id cp
      obtain ⟨cp', lp⟩ := update_canon cp o
      obtain ⟨cq', lq⟩ := update_canon cq o
      have hkp : k < (p.update o).elem.esp.length := by omega
      have hkq : k < (q.update o).elem.esp.length := by omega
      rw [(cp'.ext h0).ans_eq, (cq'.ext h0).ans_eq, if_pos hkp, if_pos hkq]
    · contradiction
  · rcases hq with ⟨hok, _⟩ | ⟨_, φ0', h0', sq⟩
    · contradiction
    · rw [h0] at h0'
      cases h0'
      apply ans_same
      apply update_same
      exact ⟨sp.1.trans sq.1.symm, sp.2.1.trans sq.2.1.symm, sp.2.2.trans sq.2.2.symm⟩

theorem view_nthAgree {K : BrainConsts} {T : List Elem} (hT : SymInj T) {ch : Cache} (hinv : CacheInv K T ch)
    {c : BComp} (hc : CompOK T c) {o : Int} {a : IsoConstants} (ha : FromComp K c o a) :
    NthAgree a.update (ch.view a).1.update c o.toNat := by
  intro x hx k hk1 hk b
  rw [nthPs_update, nthPs_update, Cache.find_view]
  cases hf : a.consts.find? (fun y => y.1 == x.1.sym) with
  | none => rfl
  | some p =>
    obtain ⟨hp, hps⟩ := find?_key_some hf
    obtain ⟨y, hy, hys, h0⟩ := ha.2 p hp
    obtain ⟨h1, h2⟩ := sub_canonG hT hinv (hc y hy) hys h0
    rw [hT y.1 (hc y hy) x.1 (hc x hx) (hys.trans hps)] at h1 h2
    exact pair_ans h1 h2 _ hk1 (by rw [ha.1]; exact hk) b

def peaksOf (r : Res (List Peak × Cache)) : Res (List Peak) := r.bind fun p => .ok p.1

/-- from a cache that satisfies the invariant, a generator call returns the peaks (or
    the failure) of the stateless function -/
theorem call_pure {K : BrainConsts} {T : List Elem} (hT : SymInj T) {cache : Cache}
    (hinv : CacheInv K T cache) {c : BComp} (hc : CompOK T c) (req : PeakReq) (z : Int) (carrier : Rat) :
    peaksOf (generatorCall K cache c req z carrier) = brainVariants K c req z carrier := by
  rw [generatorCall_eq, brainVariants_eq, peaksOf, fold_view hT hinv hc, Res.bind_assoc, Res.bind_assoc]
  cases hfold : c.foldl (populateStep K) (.ok ⟨[], resolveOrder K c req⟩) with
  | err => rw [Res.bind_err, Res.bind_err]
  | panic => rw [Res.bind_panic, Res.bind_panic]
  | ok a =>
    simp only [Res.bind_ok]
    rw [← variantsWith_congr K (view_nthAgree hT hinv hc (populate_fromComp hfold))]
    cases variantsWith K a.update c (resolveOrder K c req).toNat z carrier <;> rfl

theorem variantsWith_ok_nth {K : BrainConsts} {consts : IsoConstants} {c : BComp} {n : Nat} {z : Int}
    {carrier : Rat} {pk : List Peak} (h : variantsWith K consts c n z carrier = .ok pk) :
    ∀ x ∈ c, ∀ k, 1 ≤ k → k ≤ n → ∃ v, nthPs consts x.1.sym k false = .ok v := by
  intro x hx k hk1 hk
  unfold variantsWith rawVariants at h
  dsimp only at h
  obtain ⟨_, h, _⟩ := Res.bind_eq_ok.mp h
  obtain ⟨prob, h, _⟩ := Res.bind_eq_ok.mp h
  unfold probabilityVector at h
  obtain ⟨phis, h, _⟩ := Res.bind_eq_ok.mp h
  obtain ⟨y, hy⟩ := mapRes_ok h (k - 1) (List.mem_range.mpr (Nat.sub_one_lt_of_le hk1 hk))
  rw [Nat.sub_add_cancel hk1] at hy
  unfold phiFor at hy
  obtain ⟨b, hb⟩ := sumRes_eq_ok hy _ (List.mem_map.mpr ⟨x, hx, rfl⟩)
  obtain ⟨v, hv, _⟩ := Res.bind_eq_ok.mp hb
  exact ⟨v, hv⟩

theorem Cache.mem_receive {ch : Cache} {s : Sym} {φ : Phi} {p : Sym × Phi} (hp : p ∈ Cache.receive ch s φ) :
    p ∈ ch ∨ p = (s, φ) := by
  unfold Cache.receive at hp
  split at hp
  · exact (List.mem_append.mp hp).imp_right List.mem_singleton.mp
  · next x _ =>
    by_cases ho : φ.order < x.2.order
    · rw [if_pos ho] at hp
      exact .inl hp
    · rw [if_neg ho] at hp
      obtain ⟨y, hy, rfl⟩ := List.mem_map.mp hp
      split
      · exact .inr rfl
      · exact .inl hy

theorem receive_fold_inv {K : BrainConsts} {T : List Elem} (l : List (Sym × Phi)) {ch : Cache}
    (h : CacheInv K T ch) (hl : ∀ q ∈ l, ∃ e ∈ T, e.sym = q.1 ∧ CanonG K e q.2) :
    CacheInv K T (l.foldl (fun ch x => Cache.receive ch x.1 x.2) ch) :=
  List.foldlRecOn l _ h fun _ hch q hq p hp => (Cache.mem_receive hp).elim (hch p) fun e => e ▸ hl q hq

/-- `Phi.update` keeps the entry invariant, provided the call went on to read index `o` of the updated entry
    (an extended entry of an element without `ElemOK` answers that read with a panic) -/
theorem CanonG.update {K : BrainConsts} {e : Elem} {φ : Phi} (h : CanonG K e φ) {o : Int}
    (hread : 1 ≤ o.toNat → ans (φ.update o) o.toNat false ≠ .panic) : CanonG K e (φ.update o) := by
  rcases h with ⟨hok, hcan⟩ | ⟨hnok, φ0, h0, hsame⟩
  · exact .inl ⟨hok, (update_canon hcan o).1⟩
  · refine .inr ⟨hnok, φ0, h0, ?_⟩
    by_cases hlt : o < φ.order
    · rw [update_of_lt hlt]
      exact hsame
    · obtain ⟨hk1, hp⟩ := bad_update_fail hnok h0 hsame hlt
      exact absurd hp (hread hk1)

theorem call_inv {K : BrainConsts} {T : List Elem} (hT : SymInj T) {cache : Cache}
    (hinv : CacheInv K T cache) {c : BComp} (hc : CompOK T c) {req : PeakReq} {z : Int} {carrier : Rat}
    {peaks : List Peak} {cache' : Cache} (h : generatorCall K cache c req z carrier = .ok (peaks, cache')) :
    CacheInv K T cache' := by
  rw [generatorCall_eq, fold_view hT hinv hc, Res.bind_assoc] at h
  obtain ⟨a, hfold, h⟩ := Res.bind_eq_ok.mp h
  rw [Res.bind_ok] at h
  obtain ⟨pk, hvar, h⟩ := Res.bind_eq_ok.mp h
  cases h
  have ha := populate_fromComp hfold
  apply receive_fold_inv _ fun p hp => hinv p (List.mem_filter.mp hp).1
  intro q hq
  obtain ⟨q0, hq0, rfl⟩ := List.mem_map.mp hq
  obtain ⟨p, hp, rfl⟩ := List.mem_map.mp hq0
  obtain ⟨x, hx, hxs, h0⟩ := ha.2 p hp
  refine ⟨x.1, hc x hx, hxs.trans (cache.sub_fst p).symm, (sub_canonG hT hinv (hc x hx) hxs h0).2.update ?_⟩
  -- the call has read index `order` of the entry found under the symbol of `x`, and that entry is this one: the
  -- stateless constants hold, under one key, the constants of one element
  rw [show (cache.view a).1.order = resolveOrder K c req from ha.1]
  intro hk1
  obtain ⟨v, hv⟩ := variantsWith_ok_nth hvar x hx _ hk1 (Nat.le_refl _)
  rw [nthPs_update, Cache.find_view] at hv
  cases hf : a.consts.find? (fun y => y.1 == x.1.sym) with
  | none =>
    rw [hf] at hv
    cases hv
  | some p1 =>
    obtain ⟨hp1, hp1s⟩ := find?_key_some hf
    obtain ⟨y, hy, hys, h1⟩ := ha.2 p1 hp1
    rw [hT y.1 (hc y hy) x.1 (hc x hx) (hys.trans hp1s), h0] at h1
    obtain rfl : p = p1 := Prod.ext (hxs.symm.trans hp1s.symm) (Res.ok.inj h1)
    rw [hf, show (cache.view a).1.order = resolveOrder K c req from ha.1] at hv
    exact fun h => nomatch h.symm.trans hv

abbrev Call := BComp × PeakReq × Int × Rat

/-- the cache after one more call: the new cache when the call succeeds, unchanged otherwise -/
def stepCache (K : BrainConsts) (cache : Cache) (q : Call) : Cache :=
  match generatorCall K cache q.1 q.2.1 q.2.2.1 q.2.2.2 with
  | .ok (_, cache') => cache'
  | _ => cache

def runHist (K : BrainConsts) (hist : List Call) : Cache := hist.foldl (stepCache K) []

def stepCacheWith (K : BrainConsts) (onFail : Cache → Call → Cache) (cache : Cache) (q : Call) : Cache :=
  match generatorCall K cache q.1 q.2.1 q.2.2.1 q.2.2.2 with
  | .ok (_, cache') => cache'
  | _ => onFail cache q

/-- `hfail`: a failed call may only lose entries; `stepCache K` is `stepCacheWith K fun cache _ => cache` -/
theorem foldCacheWith_inv {K : BrainConsts} {T : List Elem} (hT : SymInj T)
    (onFail : Cache → Call → Cache) (hfail : ∀ cache q, ∀ p ∈ onFail cache q, p ∈ cache)
    (hist : List Call) {cache : Cache} (h : CacheInv K T cache) (hq : ∀ q ∈ hist, CompOK T q.1) :
    CacheInv K T (hist.foldl (stepCacheWith K onFail) cache) := by
  refine List.foldlRecOn hist _ h fun cache h q hqm => ?_
  unfold stepCacheWith
  split
  · rename_i hcall
    exact call_inv hT h (hq q hqm) hcall
  · exact fun p hp => h p (hfail _ _ p hp)

theorem runHist_inv {K : BrainConsts} {T : List Elem} (hT : SymInj T) (hist : List Call)
    (hh : ∀ q ∈ hist, CompOK T q.1) : CacheInv K T (runHist K hist) :=
  foldCacheWith_inv hT (fun cache _ => cache) (fun _ _ _ h => h) hist (fun _ hp => by cases hp) hh

/-- whatever was requested from the generator before, a call returns exactly what the
    stateless function returns (same peaks, or the same kind of failure) -/
theorem history_pure {K : BrainConsts} {T : List Elem} (hT : SymInj T) (hist : List Call)
    (hh : ∀ q ∈ hist, CompOK T q.1) {c : BComp} (hc : CompOK T c) (req : PeakReq) (z : Int) (carrier : Rat) :
    peaksOf (generatorCall K (runHist K hist) c req z carrier) = brainVariants K c req z carrier :=
  call_pure hT (runHist_inv hT hist hh) hc req z carrier

/-- the elements that occur in the history and in the call -/
def histElems (hist : List Call) (c : BComp) : List Elem :=
  (hist.flatMap fun q => q.1.map (·.1)) ++ c.map (·.1)

/-- `history_pure` with the table left implicit: it is `histElems` -/
theorem history_pure' {K : BrainConsts} (hist : List Call) (c : BComp)
    (hwf : SymInj (histElems hist c)) (req : PeakReq) (z : Int) (carrier : Rat) :
    peaksOf (generatorCall K (runHist K hist) c req z carrier) = brainVariants K c req z carrier := by
  apply history_pure hwf
  · exact fun q hq x hx =>
      List.mem_append_left _ (List.mem_flatMap.mpr ⟨q, hq, List.mem_map.mpr ⟨x, hx, rfl⟩⟩)
  · exact fun x hx => List.mem_append_right _ (List.mem_map.mpr ⟨x, hx, rfl⟩)

theorem deterministic {K : BrainConsts} {T : List Elem} (hT : SymInj T) {cache1 cache2 : Cache}
    (h1 : CacheInv K T cache1) (h2 : CacheInv K T cache2) {c : BComp} (hc : CompOK T c)
    (req : PeakReq) (z : Int) (carrier : Rat) :
    peaksOf (generatorCall K cache1 c req z carrier) = peaksOf (generatorCall K cache2 c req z carrier) := by
  rw [call_pure hT h1 hc, call_pure hT h2 hc]

theorem brainVariants_fun {K : BrainConsts} {c c' : BComp} {req req' : PeakReq} {z z' : Int} {carrier carrier' : Rat}
    (h1 : c = c') (h2 : req = req') (h3 : z = z') (h4 : carrier = carrier') :
    brainVariants K c req z carrier = brainVariants K c' req' z' carrier' := by
  subst h1 h2 h3 h4
  rfl

/-- the same when a failed call may lose cache entries (e.g. the constants checked out before a panic) -/
theorem history_pure_anyfail {K : BrainConsts} {T : List Elem} (hT : SymInj T)
    (onFail : Cache → Call → Cache) (hfail : ∀ cache q, ∀ p ∈ onFail cache q, p ∈ cache)
    (hist : List Call) (hh : ∀ q ∈ hist, CompOK T q.1) {c : BComp} (hc : CompOK T c)
    (req : PeakReq) (z : Int) (carrier : Rat) :
    peaksOf (generatorCall K (hist.foldl (stepCacheWith K onFail) []) c req z carrier)
      = brainVariants K c req z carrier :=
  call_pure hT (foldCacheWith_inv hT onFail hfail hist (fun _ hp => by cases hp) hh) hc req z carrier

instance (T : List Elem) : Decidable (SymInj T) := by unfold SymInj; infer_instance
instance (T : List Elem) (c : BComp) : Decidable (CompOK T c) := by unfold CompOK; infer_instance

/-- Two outcomes are equal if their peaks agree in numerators and denominators.  For the kernel, deciding
    `a = b` through the derived `DecidableEq` of `Peak` and `Rat` costs several times the evaluation of both
    sides; comparing the four integers does not.  The tuple has to be a lambda here: behind a definition the
    evaluation is as dear as before. -/
theorem peaks_ext {a b : Res (List Peak)}
    (h : a.bind (fun pk => .ok (pk.map fun p => (p.mz.num, p.mz.den, p.int.num, p.int.den))) =
      b.bind (fun pk => .ok (pk.map fun p => (p.mz.num, p.mz.den, p.int.num, p.int.den)))) : a = b := by
  cases a <;> cases b <;> simp only [Res.bind, Res.ok.injEq, reduceCtorEq] at h ⊢
  refine (List.map_inj_right fun p q h => ?_).1 h
  cases p; cases q
  simp only [Prod.mk.injEq] at h
  rw [Peak.mk.injEq]
  exact ⟨Rat.ext h.1 h.2.1, Rat.ext h.2.2.1 h.2.2.2⟩

namespace C08Ex

def K : BrainConsts :=
  { one := 1000000, lambdaFactor := 1800, maxIter := 255, guessCap := 300,
    guessFraction := 9999/10000, cut := 1/10000000000 }

def H : Elem :=
  { tkey := [72], sym := [72], isos := [⟨1, 1007825, 999885, 1, 0⟩, ⟨2, 2014102, 115, 2, 1⟩],
    mostIso := 1, mostMass := 1007825, minShift := 0, maxShift := 1, elemNum := 1 }

/-- carbon-like: two isotopes (`elemNum` chosen so that the key walk of `isotopic_coefficients` meets them) -/
def X : Elem :=
  { tkey := [88], sym := [88], isos := [⟨12, 12000000, 989300, 12, 0⟩, ⟨13, 13003355, 10700, 13, 1⟩],
    mostIso := 12, mostMass := 12000000, minShift := 0, maxShift := 1, elemNum := 12 }

/-- a different element under the same symbol -/
def X' : Elem := { X with isos := [⟨12, 12000000, 500000, 12, 0⟩, ⟨13, 13003355, 500000, 13, 1⟩] }

/-- an element whose coefficient vector (length 1) is shorter than its `maxShift` (3) -/
def Bad : Elem :=
  { tkey := [66], sym := [66], isos := [⟨1, 1000000, 1000000, 1, 3⟩],
    mostIso := 1, mostMass := 1000000, minShift := 0, maxShift := 3, elemNum := 4 }

def T : List Elem := [H, X, Bad]

def hist1 : List Call := [([(H, 2)], .fixed 2, 0, 0), ([(X, 6), (H, 10)], .fixed 9, 2, 1)]
def hist2 : List Call := [([(X, 1), (H, 4)], .guess, 1, 1), ([(H, 1)], .fixed 1, 1, 1), ([(Bad, 4)], .fixed 1, 0, 0),
   ([(Bad, 4)], .fixed 3, 0, 0)]

example : SymInj T := by decide +kernel
example : ElemOK K H ∧ ElemOK K X ∧ ¬ ElemOK K Bad := by decide +kernel
example : ∀ q ∈ hist1 ++ hist2, CompOK T q.1 := by decide +kernel

/-- the two histories leave different caches … -/
example : (runHist K hist1).map (fun p => (p.1, p.2.order)) = [([88], 10), ([72], 9)] ∧
    (runHist K hist2).map (fun p => (p.1, p.2.order)) = [([88], 4), ([72], 4), ([66], 3)] := by decide +kernel

/-- … and the same call returns, after either, what the stateless function returns: three peaks -/
example : peaksOf (generatorCall K (runHist K hist1) [(X, 2), (H, 6)] (.fixed 3) 1 1)
    = brainVariants K [(X, 2), (H, 6)] (.fixed 3) 1 1 := peaks_ext (by decide +kernel)
example : peaksOf (generatorCall K (runHist K hist2) [(X, 2), (H, 6)] (.fixed 3) 1 1)
    = brainVariants K [(X, 2), (H, 6)] (.fixed 3) 1 1 := by decide +kernel
example : (brainVariants K [(X, 2), (H, 6)] (.fixed 3) 1 1).bind (fun pk => .ok pk.length) = .ok 3 := by
  decide +kernel

/-- an element without `ElemOK` stays unextended in the cache; the failing call fails either way -/
example : peaksOf (generatorCall K (runHist K hist2) [(Bad, 4)] (.fixed 3) 0 0) = .panic ∧
    brainVariants K [(Bad, 4)] (.fixed 3) 0 0 = .panic := by decide +kernel

example : peaksOf (generatorCall K (runHist K hist1) [(X, 2), (H, 6)] (.fixed 3) 1 1)
    = brainVariants K [(X, 2), (H, 6)] (.fixed 3) 1 1 :=
  history_pure (T := T) (by decide +kernel) hist1 (by decide +kernel) (by decide +kernel) _ _ _

/-- the hypothesis "the symbol determines the element" cannot be dropped: after a call with another
    element under the same symbol the generator answers with the wrong constants -/
example : peaksOf (generatorCall K (runHist K [([(X', 2)], .fixed 3, 1, 1)]) [(X, 2)] (.fixed 3) 1 1)
    ≠ brainVariants K [(X, 2)] (.fixed 3) 1 1 := by decide +kernel

end C08Ex

end Chem
