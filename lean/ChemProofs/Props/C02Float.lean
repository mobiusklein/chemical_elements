import ChemProofs.Lemmas.Rounding
/-
Floating-point error bound (standard model, `Model/Float.lean`) for the mass of a composition (C02):
the Rust code folds left to right from `0.0` with ONE fused multiply-add per entry,
`total = mass_i.mul_add(count_i as f64, total)` (src/composition_list.rs:135-141,
src/composition_map.rs:99-105; `count as f64` is exact for `i32`).
-/
namespace Chem

/-- the computed mass: one rounding per entry `(mass_i, count_i)` (fused multiply-add) -/
def flMass (F : FlModel) (l : List (Rat × Rat)) : Rat :=
  l.foldl (fun acc p => F.rnd (p.1 * p.2 + acc)) 0

def exMass (l : List (Rat × Rat)) : Rat := (l.map fun p => p.1 * p.2).sum

/-- the fused fold is the plain left-to-right sum of the exact products -/
theorem flMass_eq_flSum (F : FlModel) (l : List (Rat × Rat)) :
    flMass F l = flSum F (l.map fun p => p.1 * p.2) := by
  unfold flMass flSum
  rw [List.foldl_map]
  congr 1
  funext acc p
  rw [add_comm]

/-- the standard bound for recursive summation with signed terms, one rounding per term
(no smallness condition on `u` is needed) -/
theorem flMass_abs_bound {F : FlModel} (hF : F.OK) (l : List (ℚ × ℚ)) :
    |flMass F l - exMass l| ≤ ((1 + F.u) ^ l.length - 1) * (l.map fun p => |p.1 * p.2|).sum := by
  have h := flSum_abs_le hF (l.map fun p => p.1 * p.2)
  rwa [← flMass_eq_flSum, List.length_map, List.map_map] at h

/-- first-order (Bernoulli) form -/
theorem flMass_linear {F : FlModel} (hF : F.OK) {l : List (ℚ × ℚ)} {N : Nat} (hN : l.length ≤ N)
    (hNu : (N : ℚ) * F.u < 1) {M : ℚ} (hS : (l.map fun p => |p.1 * p.2|).sum ≤ M) :
    |flMass F l - exMass l| ≤ (N : ℚ) * F.u / (1 - (N : ℚ) * F.u) * M :=
  (flMass_abs_bound hF l).trans (mul_le_mul (one_add_pow_sub_one_le hF.1 hN hNu) hS
    (sum_map_abs_nonneg (fun p : ℚ × ℚ => p.1 * p.2) l)
    (div_nonneg (mul_nonneg N.cast_nonneg hF.1) (sub_pos.2 hNu).le))

/-- binary64, at most 64 entries, at most `10^8` Da of absolute mass: the computed mass is within one
micro-dalton of the exact one (`64 · 2^-53 · 10^8 ≈ 7.1e-7`) -/
theorem flMass_f64 {F : FlModel} (hF : F.OK) (hu : F.u = 1 / 2 ^ 53) {l : List (ℚ × ℚ)}
    (hn : l.length ≤ 64) (hS : (l.map fun p => |p.1 * p.2|).sum ≤ 10 ^ 8) :
    |flMass F l - exMass l| ≤ 1 / 10 ^ 6 := by
  refine (flMass_linear hF hn ?_ hS).trans ?_
  all_goals
    rw [hu]
    norm_num

/-- binary64, at most 8 entries, at most a gigadalton of absolute mass
(`8 · 2^-53 · 10^9 ≈ 8.9e-7`) -/
theorem flMass_f64_giga {F : FlModel} (hF : F.OK) (hu : F.u = 1 / 2 ^ 53) {l : List (ℚ × ℚ)}
    (hn : l.length ≤ 8) (hS : (l.map fun p => |p.1 * p.2|).sum ≤ 10 ^ 9) :
    |flMass F l - exMass l| ≤ 1 / 10 ^ 6 := by
  refine (flMass_linear hF hn ?_ hS).trans ?_
  all_goals
    rw [hu]
    norm_num

def exactModel64 : FlModel := ⟨id, 1 / 2 ^ 53⟩

theorem exactModel64_OK : exactModel64.OK := FlModel.OK_exact (by norm_num)

/-- water, H2 O1 (masses in micro-dalton precision; a negative count is allowed too) -/
example :
    exactModel64.OK ∧ exactModel64.u = 1 / 2 ^ 53 ∧
    ([(1007825 / 1000000, 2), (15994915 / 1000000, 1)] : List (ℚ × ℚ)).length ≤ 64 ∧
    (([(1007825 / 1000000, 2), (15994915 / 1000000, 1)] : List (ℚ × ℚ)).map
      fun p => |p.1 * p.2|).sum ≤ 10 ^ 8 :=
  ⟨exactModel64_OK, by decide +kernel⟩

example : flMass exactModel64 [(1007825 / 1000000, 2), (15994915 / 1000000, 1)]
    = exMass [(1007825 / 1000000, 2), (15994915 / 1000000, 1)] := by decide +kernel

example : exMass [(1007825 / 1000000, 2), (15994915 / 1000000, 1)] = 18010565 / 1000000 := by
  decide +kernel

/-- the conclusion of `flMass_f64` for a model that really perturbs (every result off by the full
relative error `2^-53`), signed counts -/
example : |flMass ⟨fun x => x * (1 + 1 / 2 ^ 53), 1 / 2 ^ 53⟩ [(12, 6), (1007825 / 1000000, -2)]
      - exMass [(12, 6), (1007825 / 1000000, -2)]| ≤ 1 / 10 ^ 6 :=
  flMass_f64 (FlModel.OK_perturb (by decide +kernel)) rfl (by decide +kernel) (by decide +kernel)

/-! ### the list representation and the hash-map representation of a composition sum the SAME entries in different
orders: the two computed masses differ by at most twice the recursive-summation bound -/

theorem exMass_perm {l l' : List (ℚ × ℚ)} (h : l.Perm l') : exMass l = exMass l' := by
  unfold exMass
  exact (h.map _).sum_eq

theorem abs_sub_le_two_mul {a b e B : ℚ} (ha : |a - e| ≤ B) (hb : |b - e| ≤ B) : |a - b| ≤ 2 * B :=
  (abs_sub_le a e b).trans ((add_le_add ha ((abs_sub_comm e b).trans_le hb)).trans_eq (two_mul B).symm)

/-- **order-independence up to rounding**: two orders of the same entries give computed masses within
    `2 ((1+u)^n − 1) Σ|mass_i · count_i|` of each other -/
theorem flMass_perm {F : FlModel} (hF : F.OK) {l l' : List (ℚ × ℚ)} (h : l.Perm l') :
    |flMass F l - flMass F l'| ≤ 2 * ((1 + F.u) ^ l.length - 1) * (l.map fun p => |p.1 * p.2|).sum := by
  have h2 := flMass_abs_bound hF l'
  rw [← exMass_perm h, ← h.length_eq, ← (h.map _).sum_eq] at h2
  rw [mul_assoc]
  exact abs_sub_le_two_mul (flMass_abs_bound hF l) h2

/-- binary64, at most 64 entries, at most `10^8` Da of absolute mass: the list order and the map order give masses
    within two micro-dalton of each other -/
theorem flMass_perm_f64 {F : FlModel} (hF : F.OK) (hu : F.u = 1 / 2 ^ 53) {l l' : List (ℚ × ℚ)} (h : l.Perm l')
    (hn : l.length ≤ 64) (hS : (l.map fun p => |p.1 * p.2|).sum ≤ 10 ^ 8) :
    |flMass F l - flMass F l'| ≤ 2 / 10 ^ 6 := by
  have h2 := flMass_f64 hF hu (l := l') (h.length_eq ▸ hn) ((h.map _).sum_eq.ge.trans hS)
  rw [← exMass_perm h] at h2
  exact (abs_sub_le_two_mul (flMass_f64 hF hu hn hS) h2).trans_eq (mul_one_div 2 _)

/-- non-vacuity: a perturbing model, two orders of the same signed entries -/
example : ([(12, 6), (1007825 / 1000000, -2)] : List (ℚ × ℚ)).Perm [(1007825 / 1000000, -2), (12, 6)] :=
  List.Perm.swap _ _ _

example : flMass ⟨fun x => x * (1 + 1 / 2 ^ 53), 1 / 2 ^ 53⟩ [(12, 6), (1007825 / 1000000, -2)]
    ≠ flMass ⟨fun x => x * (1 + 1 / 2 ^ 53), 1 / 2 ^ 53⟩ [(1007825 / 1000000, -2), (12, 6)] := by decide +kernel

end Chem
