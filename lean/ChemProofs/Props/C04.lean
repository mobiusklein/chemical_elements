import ChemProofs.Lemmas.Comp
/-
C04 — composition arithmetic is exact pointwise integer arithmetic.

Stated over `get` (absent keys read 0) for every key, every pair of compositions in any mix of
the four forms (the model of `+`/`-` iterates the right operand's entries, whatever its type),
every scalar.
-/
namespace Chem
open Ents

/-- `(a ± b)[k] = a[k] ± b[k]` for a right operand with unique keys -/
theorem get_add (a b : Comp) (sign : Int) (hb : b.ents.NoDupKeys) (k : Key) :
    (a.addNew b sign).get k = a.get k + sign * b.get k := by
  unfold Comp.addNew Comp.get
  rw [Comp.addFrom_ents, get_addFrom, sumFor_nodup _ _ hb]

theorem get_plus (a b : Comp) (hb : b.ents.NoDupKeys) (k : Key) :
    (a.addNew b 1).get k = a.get k + b.get k := by
  rw [get_add a b 1 hb, Int.one_mul]

theorem get_minus (a b : Comp) (hb : b.ents.NoDupKeys) (k : Key) :
    (a.addNew b (-1)).get k = a.get k - b.get k := by
  rw [get_add a b (-1) hb, Int.neg_one_mul, Int.sub_eq_add_neg]

/-- `(a * n)[k] = n * a[k]`, `(-a)[k] = -a[k]` -/
theorem get_mul (a : Comp) (n : Int) (k : Key) : (a.mulNew n).get k = n * a.get k :=
  get_mapCounts_mul a.ents n k

theorem get_neg (a : Comp) (k : Key) : (a.mulNew (-1)).get k = - a.get k := by
  rw [get_mul, Int.neg_one_mul]

/-- building from (key, count) pairs gives each key the sum of the counts listed for it -/
theorem get_ofPairs (f : Form) (ps : Ents) (k : Key) : (Comp.ofPairs f ps).get k = sumFor ps k :=
  Ents.get_ofPairs ps k

/-- what `+`/`-` rely on (`get_add`), and an invariant of the machine (`step_nodup`) -/
def Regs.NoDup (rs : Regs) : Prop := ∀ c ∈ rs, c.ents.NoDupKeys

theorem Comp.Built.nodup {m : Key → Int} {K : Key → Prop} {rs : Regs} (h : Regs.NoDup rs) {c : Comp}
    (hc : Comp.Built m K rs c) : c.ents.NoDupKeys := by
  induction hc with
  | reg hc => exact h _ hc
  | empty => exact nodup_nil
  | set k v _ _ ih => exact nodup_set _ k v ih
  | iterMut f _ ih => exact nodup_mapCounts _ f ih
  | addFrom s _ _ ih _ => exact Comp.addFrom_ents .. ▸ nodup_addFrom _ _ s ih
  | convert => exact nodup_ofSets _
  | ofPairs f ps => exact nodup_ofPairs ps
  | touch _ ih => exact ih
  | fmass _ ih => rwa [Comp.fmass_ents]

theorem step_nodup (cc : CharClass) (T : Table) (m : Key → Int) (rs : Regs) (op : Op)
    (h : Regs.NoDup rs) : Regs.NoDup (stepM cc T m rs op).regs :=
  fun c hc => Comp.Built.nodup h (step_built cc T m rs op (fun _ => True) (fun _ _ => trivial) c hc)

/-- along every history from empty registers (the fold is `runM cc T m _ ops` unfolded) -/
theorem run_nodup (cc : CharClass) (T : Table) (m : Key → Int) (n : Nat) (ops : List Op) :
    Regs.NoDup (ops.foldl (fun rs op => (stepM cc T m rs op).regs) (List.replicate n (Comp.empty .vec))) :=
  List.foldlRecOn ops _ (List.forall_mem_replicate.2 (.inr nodup_nil))
    fun rs h op _ => step_nodup cc T m rs op h

/-- writing register `d` leaves every other register as it was; every arm of `stepM` is at most one such
    write, so no operator form modifies its right-hand / borrowed operand -/
theorem operands_unchanged (rs : Regs) (d : Nat) (c : Comp) (r : Nat) (h : r ≠ d) :
    (rs.put d c).at r = rs.at r :=
  Regs.at_put_ne c h

/-- by-value and by-reference `±` are one operation of the machine (`.add`, see `Op`); it and the in-place form `.addi`
    produce the same entries -/
theorem forms_agree (cc : CharClass) (T : Table) (m : Key → Int) (rs : Regs) (d a b : Nat) (sign : Int)
    (hd : d < rs.length) (ha : a < rs.length) :
    ((stepM cc T m rs (.add d a b sign)).regs.at d).ents = ((stepM cc T m rs (.addi a b sign)).regs.at a).ents := by
  dsimp only [stepM]
  rw [Regs.at_put_self hd, Regs.at_put_self ha]
  rfl

def absC (c : Comp) : FMap := abs c.ents
def absRegs (rs : Regs) : SRegs := rs.map absC

theorem absRegs_at (rs : Regs) (i : Nat) : (absRegs rs).at i = absC (rs.at i) :=
  Regs.at_map absC rs i

theorem absRegs_put (rs : Regs) (i : Nat) (c : Comp) : absRegs (rs.put i c) = (absRegs rs).put i (absC c) := by
  unfold absRegs SRegs.put Regs.put
  rw [List.map_set]

theorem absC_get (c : Comp) (k : Key) : (absC c).get k = c.get k := (get_eq_abs c.ents k).symm

theorem absC_empty (f : Form) : absC (Comp.empty f) = FMap.empty := rfl

theorem absC_set (c : Comp) (k : Key) (v : Int) : absC (c.set k v) = (absC c).set k v :=
  funext fun k' => abs_set c.ents k v k'

theorem absC_inc (c : Comp) (k : Key) (v : Int) : absC (c.inc k v) = (absC c).inc k v := by
  rw [Comp.inc, absC_set, FMap.inc, absC_get]

theorem absC_scale (c : Comp) (f : Int → Int) : absC (c.iterMut f) = (absC c).scale f :=
  funext fun k => abs_mapCounts c.ents f k

theorem absC_add (a b : Comp) (sign : Int) (hb : b.ents.NoDupKeys) :
    absC (a.addFrom b.ents sign) = (absC a).add (absC b) sign := by
  funext k
  rw [absC, Comp.addFrom_ents, abs_addFrom, sumFor_nodup _ _ hb, has_eq_abs, get_eq_abs b.ents, FMap.add, absC_get]
  show _ = match abs b.ents k with | none => _ | some v => _
  cases abs b.ents k <;> rfl

theorem absC_ofPairs (f : Form) (ps : Ents) : absC (Comp.ofPairs f ps) = FMap.ofPairs ps :=
  funext (abs_ofPairs ps)

theorem absC_convChain (c : Comp) (f : Form) (h : c.ents.NoDupKeys) : absC (convChain c f) = absC c := by
  rw [absC, convChain_ents c f h]
  rfl

/-- **refinement**: on every operation that `hop` admits, one step of the model of the code is one step
    of the finite-map specification (state and value read).  Left out: the string-keyed operations (covered by
    `Props/C06.lean` / `Props/C16.lean`), and `fmass` and `==`, on which the specification machine does not
    read what the code reads (it has no masses, and decides equality over `univ`). -/
theorem step_refines (cc : CharClass) (T : Table) (m : Key → Int) (univ : List Key) (rs : Regs) (op : Op)
    (h : Regs.NoDup rs)
    (hop : match op with
      | .sset .. | .sadd .. | .incs .. | .gsm .. | .gets .. | .sidx .. | .eq .. | .fmass .. => False
      | _ => True) :
    absRegs (stepM cc T m rs op).regs = (stepS T univ (absRegs rs) op).1 ∧
    (stepM cc T m rs op).read = (stepS T univ (absRegs rs) op).2 := by
  have hadd := fun (a : Comp) (i : Nat) (s : Int) => absC_add a (rs.at i) s (Regs.at_forall h nodup_nil i)
  have hconv := fun (i : Nat) (f : Form) => absC_convChain (rs.at i) f (Regs.at_forall h nodup_nil i)
  cases op <;> first | exact hop.elim | dsimp only [stepM, stepS]
  -- `absC` commutes with every mutator
  all_goals simp only [absRegs_put, absRegs_at, fromkv_eq, Comp.idxSet_eq, Comp.idxAdd_eq, Comp.mulNew_eq, Comp.mulBy_eq,
      Comp.addNew_eq, absC_empty, absC_set, absC_inc, absC_scale, hadd, hconv, absC_ofPairs, absC_get, Int.neg_one_mul, and_self]

/-- non-vacuity: a concrete sum with a key on one side only and a fixed isotope -/
example :
    let a : Comp := ⟨.vec, [((([67] : Sym), 0), 6), (([72], 0), 12)], none⟩
    let b : Comp := ⟨.map, [((([67] : Sym), 13), 1), (([72], 0), -2)], none⟩
    ((a.addNew b 1).get ([67], 13), (a.addNew b 1).get ([72], 0), (a.addNew b (-1)).get ([67], 0)) = (1, 10, 6) := by
  decide +kernel

/-- the witness of the repaired defect D6 on the pre-repair constructor (vector stored verbatim) -/
example : (Ents.get [((([72] : Sym), 0), 1), (([72], 0), 2)] ([72], 0), sumFor [((([72] : Sym), 0), 1), (([72], 0), 2)] ([72], 0)) = (1, 3) := by
  decide +kernel

end Chem
